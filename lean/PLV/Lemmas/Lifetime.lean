/-
  Helper lemmas for C02 / C07: what `match_order` returns in terms of the loop's final state, lifted to
  steps of a history, and the per-order lifetime ledger over histories.
-/
import PLV.Lemmas.MatchInv

namespace PLV

/-- Everything C02 says about one call, in terms of the level before (`l`) and the result. -/
structure MatchFacts (l : Level) (q : Nat) (t : Id) (g : Nat) (l' : Level) (r : MatchResult) (g' : Nat) : Prop where
  acct : sumQty r.txs + r.remaining = q
  complete : r.complete = true ↔ r.remaining = 0
  taker : r.taker = t
  txok : ∀ tx ∈ r.txs, tx.qty > 0 ∧ tx.price = l.price ∧ tx.taker = t ∧
    ∃ x0, l.map.find tx.maker = some x0 ∧ tx.takerSide = x0.side.opposite
  gids : g < W → idsFrom g r.txs ∧ g' = (g + r.txs.length) % W
  ledger : ∀ id, fillsOf id r.txs + tot id l'.map ≤ tot id l.map
  filled : ∀ id, id ∈ r.filled ↔ (0 < fillsOf id r.txs ∧ id ∉ ids l'.map)
  price : l'.price = l.price

theorem MatchFacts.maker_rested {l q t g l' r g'} (h : MatchFacts l q t g l' r g') {tx : Tx} (htx : tx ∈ r.txs) :
    tx.maker ∈ ids l.map := by
  obtain ⟨_, _, _, x0, hx0, _⟩ := h.txok tx htx
  exact mem_ids_of_find hx0

theorem Level.matchOrder_facts {l : Level} (h : l.Inv) (q : Nat) (t : Id) (g : Nat) :
    MatchFacts l q t g (l.matchOrder q t g).1 (l.matchOrder q t g).2.1 (l.matchOrder q t g).2.2 := by
  obtain ⟨ha, he, hi⟩ := h.loop q t g
  simp only [Level.matchOrder, Level.finishMatch, requeueAside_eq _ _ _ ha.disj ha.nodupA]
  refine ⟨he.acct, by simp, rfl, hi.txok, hi.gids, fun id => ?_, fun id => ?_, rfl⟩
  · simp only [tot_append]; have := hi.ledger id; omega
  · simp only [hi.filled id, ids_append, List.mem_append, not_or]

/-- a step of a history that returns a match result was a match call: the one place where a history
    theorem meets `MatchFacts` -/
theorem Sys.step_matched {s : Sys} {op : Op} {r : MatchResult} (h : s.lvl.Inv) (hr : (s.step op).2 = .matched r) :
    ∃ q t, MatchFacts s.lvl q t s.g (s.step op).1.lvl r (s.step op).1.g := by
  cases op with
  | matchQ q t => cases hr; exact ⟨q, t, Level.matchOrder_facts h q t s.g⟩
  | _ => cases hr

/-- quantity executed against `id` over a history -/
def filledOver (id : Id) (s : Sys) : List Op → Nat
  | [] => 0
  | op :: rest =>
    (match (s.step op).2 with
     | .matched r => fillsOf id r.txs
     | _ => 0) + filledOver id (s.step op).1 rest

/-- quantity `id` brought to the level over a history, defined as the growth of what rests under `id` across
    each operation other than a match (so for those operations `lifetime_ledger` holds by definition; its
    content is the match case). That this is what the order was added with, plus every upward amendment of
    its displayed quantity, is `C02_brought_add` for adds. -/
def broughtOver (id : Id) (s : Sys) : List Op → Nat
  | [] => 0
  | op :: rest =>
    (tot id (s.step op).1.lvl.map - (match (s.step op).2 with
        | .matched _ => tot id (s.step op).1.lvl.map   -- a match brings nothing
        | _ => tot id s.lvl.map)) + broughtOver id (s.step op).1 rest

theorem lifetime_ledger (id : Id) (ops : List Op) :
    ∀ (s : Sys), s.lvl.Inv → AdmAll s ops →
      filledOver id s ops + tot id (s.run ops).lvl.map ≤ tot id s.lvl.map + broughtOver id s ops := by
  induction ops with
  | nil => intro s _ _; simp [filledOver, broughtOver, Sys.run]
  | cons op rest ih =>
    intro s h ha
    have := ih _ (Sys.step_inv h op ha.1) ha.2
    simp only [filledOver, broughtOver, Sys.run]
    split
    · rename_i r hr
      obtain ⟨q, t, hf⟩ := Sys.step_matched h hr
      have := hf.ledger id; omega
    · omega

theorem matchLoop_ids_subset (price : Nat) (taker : Id) (m0 : OMap) (rem : Nat) (m : OMap) (ts : List Id)
    (a : Acc) (h : (∀ x ∈ m, x.id ∈ ids m0) ∧ (∀ x ∈ a.aside, x.id ∈ ids m0)) :
    let res := matchLoop price taker rem m ts a
    (∀ x ∈ res.2.1, x.id ∈ ids m0) ∧ (∀ x ∈ res.2.2.2.aside, x.id ∈ ids m0) := by
  refine matchLoop_ind price taker
    (fun _ m _ a => (∀ x ∈ m, x.id ∈ ids m0) ∧ (∀ x ∈ a.aside, x.id ∈ ids m0)) ?_ ?_ ?_ ?_ rem m ts a h
  · intro rem m ts a _ _ h; exact h
  · intro rem m ts a o m' ts' u _ hp hu hs ⟨h1, h2⟩
    obtain ⟨hf, rfl⟩ := popLive_spec hp
    obtain rfl := ma_aside_eq hu hs
    refine ⟨fun x hx => h1 x (mem_erase.1 hx).1, fun x hx => ?_⟩
    simp at hx
    exact hx.elim (h2 x) fun e => e ▸ h1 u (find_some hf).1
  · intro rem m ts a o m' ts' u _ hp hu _ ⟨h1, h2⟩
    obtain ⟨hf, rfl⟩ := popLive_spec hp
    refine ⟨?_, by simpa using h2⟩
    intro x hx
    rcases mem_insert.1 hx with hx | rfl
    · exact h1 x (mem_erase.1 hx.1).1
    · rw [(ma_stay hu).1]; exact h1 o (find_some hf).1
  · intro rem m ts a o m' ts' _ hp _ ⟨h1, h2⟩
    obtain ⟨hf, rfl⟩ := popLive_spec hp
    exact ⟨fun x hx => h1 x (mem_erase.1 hx).1, by simpa using h2⟩

theorem Level.matchOrder_ids_subset (l : Level) (q : Nat) (t : Id) (g : Nat) :
    ∀ x ∈ (l.matchOrder q t g).1.map, x.id ∈ ids l.map := by
  have := matchLoop_ids_subset l.price t l.map q l.map l.tickets
    { vis := l.vis, hid := l.hid, cnt := l.cnt, stats := l.stats, g := g }
    ⟨fun x hx => mem_ids_of_mem hx, by simp⟩
  exact fun x hx => (requeueAside_mem _ _ _ x hx).elim (this.1 x) (this.2 x)

theorem Level.amend_ids (l : Level) (id : Id) (n : Nat) {x : Id} :
    x ∈ ids (l.amend id n).1.map → x ∈ ids l.map := by
  cases hf : l.map.find id with
  | none => rw [Level.amend_none hf]; exact fun h => h
  | some o =>
    rw [Level.amend_eq hf, ids_insert, mem_ids_erase, withReduced_id, (find_some hf).2]
    exact fun hm => hm.elim And.left fun e => e ▸ mem_ids_of_find hf

theorem Sys.step_ids {s : Sys} {op : Op} {x : Id} (hx : x ∈ ids (s.step op).1.lvl.map) :
    x ∈ ids s.lvl.map ∨ ∃ o, op = .add o ∧ o.id = x := by
  cases op with
  | add o => exact (ids_insert.1 hx).imp_right fun e => ⟨o, rfl, e.symm⟩
  | matchQ q t =>
    obtain ⟨y, hy, rfl⟩ := mem_ids.1 hx
    exact .inl (Level.matchOrder_ids_subset _ q t s.g y hy)
  | read => exact .inl hx
  | update u =>
    refine .inl ?_
    simp only [Sys.step] at hx
    rw [s.lvl.update_eq] at hx
    split at hx
    · rw [(s.lvl.removeOrder_queue _).1] at hx; exact (mem_ids_erase.1 hx).1
    · split at hx
      · exact Level.amend_ids _ _ _ hx
      · exact hx

end PLV
