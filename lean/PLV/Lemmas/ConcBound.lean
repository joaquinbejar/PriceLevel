/-
  The supply potential of a concurrent execution never grows, and the stored counters stay below
  2^64 (helper lemmas for C03 / C12: no aggregate ever wraps).
-/
import PLV.Lemmas.ConcGlobal

namespace PLV.Conc
open PLV

/-- quantity a thread has yet to bring to the level within its current call -/
def pend : Pc → Nat
  | .add0 o => o.vis + o.hid
  | .add1 o => o.hid
  | .am0 _ n | .am1 _ n => n
  | .amV o1 new => (new.vis - o1.vis) + (new.hid - o1.hid)
  | .amH o1 new => new.hid - o1.hid
  | .mVAdd _ _ hr => hr       -- taken out of the hidden counter, not yet added to the visible one
  | _ => 0

/-- what a call not yet started will bring: `pend` at its `start` -/
def opPend : COp → Nat
  | .add o => o.vis + o.hid
  | .amend _ n => n
  | _ => 0

/-- pending count of orders a thread has yet to bring -/
def pendC : Pc → Nat
  | .add0 _ | .add1 _ | .add2 _ => 1
  | _ => 0

/-- `pendC` at the `start` of a call not yet started -/
def opPendC : COp → Nat
  | .add _ => 1
  | _ => 0

theorem afterVisit_pend (L : MLoc) : pend (afterVisit L).pc = 0 ∧ pendC (afterVisit L).pc = 0 :=
  afterVisit_elim (P := fun a => pend a.pc = 0 ∧ pendC a.pc = 0) L (fun _ => ⟨rfl, rfl⟩) (fun _ => ⟨rfl, rfl⟩)
    (fun _ _ _ => ⟨rfl, rfl⟩)

theorem afterStats_pend (L : MLoc) (o : Order) : pend (afterStats L o).pc = 0 ∧ pendC (afterStats L o).pc = 0 :=
  afterStats_elim (P := fun a => pend a.pc = 0 ∧ pendC a.pc = 0) L o (fun _ => ⟨rfl, rfl⟩)
    (fun _ _ _ => afterVisit_pend _) (fun _ _ _ => ⟨rfl, rfl⟩) (fun _ _ _ _ => ⟨rfl, rfl⟩)

/-- one step never raises `Σ map + credit + pending` (quantity), nor `|map| + credit + pending`
    (orders); the premises are those of `Step.counters` -/
theorem Step.potential {s s' : Shared} {pc : Pc} {a : After} (h : Step s pc s' a) (hn : (ids s.map).Nodup)
    (hfresh : ∀ x ∈ held pc, x ∉ ids s.map) (hok : PcOk pc) :
    sumVis s'.map + sumHid s'.map + cV a.pc + cH a.pc + pend a.pc ≤ sumVis s.map + sumHid s.map + cV pc + cH pc + pend pc ∧
    s'.map.length + cC a.pc + pendC a.pc ≤ s.map.length + cC pc + pendC pc := by
  induction h
  case' add4 o | amIns o | mIns _ o | fIns _ o _ => have := sum_insert_fresh (hfresh o.id (by simp [held]))
  case' can0_some id o h => have := erase_find hn h
  case' am1_amV id n o1 h _ | am1_amH id n o1 h _ | am1_amIns id n o1 h _ =>
    have := erase_find hn h
    -- an amend brings at most `n`: the new display is at most the old one plus `n`, the hidden quantity stays
    have hh := withReduced_hid o1 n
    have hv := withReduced_vis_le o1 n
  case' mRm_exec L t o h _ | mRm_dry L t o h _ => have := erase_find hn h
  case' mSubV L o => have := ma_consumed_le o L.rem
  case' mVAdd L u hr => change hr ≤ u.vis at hok
  case' mSt4 L o _ | mSt5 L o => simp only [afterStats_c, afterStats_pend]
  case' mTk | mCnt | mHLeft => simp only [afterVisit_c, afterVisit_pend]
  all_goals
    simp only [After.pc, cV, cH, cC, pend, pendC, sumVis, sumHid, List.length_cons, List.length_nil, Nat.le_refl,
      and_self, and_true, true_and] <;> omega

/-- every value a step writes into a counter is a 64-bit value -/
theorem Step.lt {s s' : Shared} {pc : Pc} {a : After} (h : Step s pc s' a) (hv : s.vis < W) (hh : s.hid < W)
    (hc : s.cnt < W) : s'.vis < W ∧ s'.hid < W ∧ s'.cnt < W := by
  induction h <;> simp only [wadd_lt, wsub_lt, hv, hh, hc, and_self]

def tpend (t : Thread) : Nat := pend t.pc + sumOps opPend t.todo
def tpendC (t : Thread) : Nat := pendC t.pc + sumOps opPendC t.todo

/-- quantity potential: everything in the book, credited to a thread, or still to be brought -/
def potQ (c : Cfg) : Nat :=
  sumVis c.sh.map + sumHid c.sh.map + sumT (fun t => cV t.pc + cH t.pc + tpend t) c.ts

def potC (c : Cfg) : Nat := c.sh.map.length + sumT (fun t => cC t.pc + tpendC t) c.ts

theorem share_pend : Share tpend pend := .of pend opPend rfl (by intro op; cases op <;> rfl)
theorem share_pendC : Share tpendC pendC := .of pendC opPendC rfl (by intro op; cases op <;> rfl)

/-- invariant with bounds: `Q` bounds all quantity ever supplied, `N` all orders ever supplied -/
structure BInv (Q N : Nat) (c : Cfg) : Prop where
  inv : CInv c
  hQ : potQ c ≤ Q
  hC : potC c ≤ N
  lt : c.sh.vis < W ∧ c.sh.hid < W ∧ c.sh.cnt < W

theorem BInv.step {Q N : Nat} {c : Cfg} (h : BInv Q N c) (i : Nat) : BInv Q N (Conc.step c i).1 := by
  obtain ⟨hfresh, hok⟩ := h.inv.at i
  obtain ⟨hq, hc⟩ := (tstep_step c.sh (c.pcOf i)).potential h.inv.nodup hfresh hok
  have hQ := h.hQ; have hC := h.hC
  have sq := ((share_cV.add share_cH).add share_pend).step c i
  have sc := (share_cC.add share_pendC).step c i
  refine ⟨h.inv.step i, ?_, ?_, ?_⟩
  · simp only [potQ, step_sh] at hQ ⊢; omega
  · simp only [potC, step_sh] at hC ⊢; omega
  · rw [step_sh]; exact (tstep_step c.sh _).lt h.lt.1 h.lt.2.1 h.lt.2.2

theorem BInv.run {Q N : Nat} {c : Cfg} (h : BInv Q N c) (sched : List Nat) : BInv Q N (Conc.run c sched) :=
  run_inv (fun _ i h => h.step i) sched h

/-- with all supply below 2^64 the stored (wrapping) counters ARE the true quantities: the sum over
    the map plus every thread's credit — and they never exceed what was supplied -/
theorem BInv.exact {Q N : Nat} {c : Cfg} (h : BInv Q N c) (hQ : Q < W) (hN : N < W) :
    c.sh.vis = sumVis c.sh.map + sumT (fun t => cV t.pc) c.ts ∧
    c.sh.hid = sumHid c.sh.map + sumT (fun t => cH t.pc) c.ts ∧
    c.sh.cnt = c.sh.map.length + sumT (fun t => cC t.pc) c.ts ∧
    c.sh.vis ≤ Q ∧ c.sh.hid ≤ Q ∧ c.sh.cnt ≤ N := by
  have hq := h.hQ; have hn := h.hC
  simp only [potQ, potC, sumT_add] at hq hn
  have e1 := eq_of_cong h.inv.vis h.lt.1 (by omega)
  have e2 := eq_of_cong h.inv.hid h.lt.2.1 (by omega)
  have e3 := eq_of_cong h.inv.cnt h.lt.2.2 (by omega)
  exact ⟨e1, e2, e3, by omega, by omega, by omega⟩

end PLV.Conc
