/-
  Local (one thread, one step) lemmas about the small-step model: how a step moves the three
  counters, the map sums and the thread's credits (helper lemmas for C03 / C08 / C12).

  The counters wrap, so the laws about them are congruences modulo 2^64. `Step.counters` (and
  `Step.stats` in ConcStats) is stated in the shape `(v' + A) % W = (v + B) % W` — new counter with
  the old quantity, old counter with the new quantity — which is what `cong_move` consumes when a
  law is lifted to an invariant.
-/
import PLV.Lemmas.ConcStep
import PLV.Lemmas.ConcDefs

namespace PLV.Conc
open PLV

theorem wsub_cong (a b : Nat) : (wsub a b + b) % W = a % W := by unfold wsub W; omega
theorem wadd_cong (a b : Nat) : (wadd a b) % W = (a + b) % W := by unfold wadd W; omega

/-! `ConcDefs` also lifts the credit measures, `held` and `PcOk` to `After`; the laws below speak of a measure `m` after
    a step as `m a.pc`, which is the same thing: -/
theorem After.cV_eq (a : After) : a.cV = Conc.cV a.pc := by cases a <;> rfl
theorem After.cH_eq (a : After) : a.cH = Conc.cH a.pc := by cases a <;> rfl
theorem After.cC_eq (a : After) : a.cC = Conc.cC a.pc := by cases a <;> rfl
theorem After.held_eq (a : After) : a.held = Conc.held a.pc := by cases a <;> rfl
theorem After.ok_eq (a : After) : a.ok = PcOk a.pc := by cases a <;> rfl

/-- A wrapping counter through one step, for every invariant that tracks one modulo 2^64: the local
    law `hl` (the step took the counter from `v` to `v'`), the invariant before the step `hi`, and the
    linear relation `he` between what stands beside the counter before and after. -/
theorem cong_move {v v' a b x y x' y' : Nat} (hl : (v' + a) % W = (v + b) % W) (hi : (v + x) % W = y % W)
    (he : y + b + x' = y' + a + x) : (v' + x') % W = y' % W := by
  simp only [W] at *; omega

theorem eq_of_cong {v y : Nat} (h : v % W = y % W) (hv : v < W) (hy : y < W) : v = y := by
  rwa [Nat.mod_eq_of_lt hv, Nat.mod_eq_of_lt hy] at h

/-- a wrapping add moved across a congruence: the counter itself is left on both sides -/
theorem wadd_move (v k A R : Nat) : ((wadd v k + A) % W = R % W) = ((v + (A + k)) % W = R % W) := by
  rw [← Nat.mod_add_mod, wadd_cong, Nat.mod_add_mod, Nat.add_assoc, Nat.add_comm k A]

theorem wsub_move (v k A R : Nat) : ((wsub v k + A) % W = R % W) = ((v + A) % W = (R + k) % W) := by
  have h : (wsub v k + A + k) % W = (v + A) % W := by
    rw [Nat.add_right_comm, ← Nat.mod_add_mod, wsub_cong, Nat.mod_add_mod]
  simp only [eq_iff_iff]
  constructor
  · intro e; rw [← h, ← Nat.mod_add_mod, e, Nat.mod_add_mod]
  · intro e; simp only [W] at *; omega

theorem keep_law (v : Nat) {A B : Nat} (h : A = B) : (v + A) % W = (v + B) % W := by rw [h]

theorem afterVisit_c (L : MLoc) :
    cV (afterVisit L).pc = sumVis L.aside ∧ cH (afterVisit L).pc = sumHid L.aside ∧
      cC (afterVisit L).pc = L.aside.length :=
  afterVisit_elim (P := fun a => cV a.pc = sumVis L.aside ∧ cH a.pc = sumHid L.aside ∧ cC a.pc = L.aside.length) L
    (fun _ => ⟨rfl, rfl, rfl⟩) (fun h => by simp [h, After.pc, cV, cH, cC, sumVis, sumHid])
    (fun u rest h => by simp [h, After.pc, cV, cH, cC, sumVis, sumHid]; omega)

theorem afterStats_c (L : MLoc) (o : Order) :
    cV (afterStats L o).pc = o.vis - (matchAgainst o L.rem).consumed + sumVis L.aside ∧
    cH (afterStats L o).pc = o.hid + sumHid L.aside ∧ cC (afterStats L o).pc = 1 + L.aside.length := by
  have hc := ma_consumed_le o L.rem
  refine afterStats_elim (P := fun a => cV a.pc = o.vis - (matchAgainst o L.rem).consumed + sumVis L.aside ∧
    cH a.pc = o.hid + sumHid L.aside ∧ cC a.pc = 1 + L.aside.length) L o ?_ ?_ ?_ ?_
  · intro hu; have := ma_leave hu; simp only [After.pc, cV, cH, cC, and_true]; omega
  · intro u hu hs
    obtain rfl := ma_aside_eq hu hs
    simp only [afterVisit_c, sumVis_append, sumHid_append, sumVis, sumHid, List.length_append, List.length_cons,
      List.length_nil, hs.1]; omega
  · intro u hu _; have := ma_stay hu; simp only [After.pc, cV, cH, cC, and_true]; omega
  · intro u hu _ _; have := ma_stay hu; simp only [After.pc, cV, cH, cC, and_true]; omega

/-- one step of one thread: each counter moves exactly by the change of the map's sum plus the
    change of the thread's credit, modulo 2^64 -/
theorem Step.counters {s s' : Shared} {pc : Pc} {a : After} (h : Step s pc s' a) (hn : (ids s.map).Nodup)
    (hfresh : ∀ x ∈ held pc, x ∉ ids s.map) (hok : PcOk pc) :
    (s'.vis + (sumVis s.map + cV pc)) % W = (s.vis + (sumVis s'.map + cV a.pc)) % W ∧
    (s'.hid + (sumHid s.map + cH pc)) % W = (s.hid + (sumHid s'.map + cH a.pc)) % W ∧
    (s'.cnt + (s.map.length + cC pc)) % W = (s.cnt + (s'.map.length + cC a.pc)) % W := by
  induction h
  case' add4 o | amIns o | mIns _ o | fIns _ o _ => have := sum_insert_fresh (hfresh o.id (by simp [held]))
  case' can0_some id o h => have := erase_find hn h
  case' am1_amV id n o1 h _ | am1_amH id n o1 h _ | am1_amIns id n o1 h _ => have := erase_find hn h
  case' mRm_exec L t o h _ | mRm_dry L t o h _ => have := erase_find hn h; have := ma_consumed_le o L.rem
  case' mSubV L o => have := ma_consumed_le o L.rem
  case' mVAdd L u hr => change hr ≤ u.vis at hok
  case' mSt4 L o _ | mSt5 L o => simp only [afterStats_c]
  case' mTk | mHLeft => simp only [afterVisit_c]
  case' mCnt L o hk => have := mCnt_plain hk; simp only [afterVisit_c]
  all_goals
    -- after `wadd_move` / `wsub_move` every law reads `(v + A) % W = (v + B) % W`, and `A = B` is linear
    simp only [After.pc, cV, cH, cC, sumVis, sumHid, List.length_cons, List.length_nil, wadd_move, wsub_move,
      Nat.add_assoc, and_self, and_true, true_and] <;> (and_intros <;> exact keep_law _ (by omega))

end PLV.Conc
