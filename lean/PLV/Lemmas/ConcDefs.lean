/-
  Measures on the small-step model used by the concurrent invariants (helper definitions):
  credits (what the three counters contain on behalf of a thread that is not, or no longer, in the
  map), held ids, well-formedness of a program counter.
-/
import PLV.Model.Conc
import PLV.Lemmas.OMap

namespace PLV.Conc
open PLV

/-- credit of a thread in the visible-quantity counter -/
def cV : Pc → Nat
  | .add1 o | .add2 o | .add3 o | .add4 o => o.vis
  | .can1 o => o.vis
  | .amV o1 _ => o1.vis
  | .amH _ new | .amIns new => new.vis
  | .mPop L | .mRm L _ | .mTk L _ => sumVis L.aside
  | .mSubV L o => o.vis + sumVis L.aside
  | .mUuid L o | .mSt1 L o | .mSt2 L o | .mSt3 L o | .mSt4 L o | .mSt5 L o =>
    o.vis - (matchAgainst o L.rem).consumed + sumVis L.aside
  | .mHSub L u hr | .mVAdd L u hr => u.vis - hr + sumVis L.aside
  | .mIns L u => u.vis + sumVis L.aside
  | .mCnt L _ | .mHLeft L _ => sumVis L.aside
  | .fIns _ u rest => u.vis + sumVis rest
  | .fTk _ _ rest => sumVis rest
  | _ => 0

/-- credit in the hidden-quantity counter -/
def cH : Pc → Nat
  | .add2 o | .add3 o | .add4 o => o.hid
  | .can1 o | .can2 o => o.hid
  | .amV o1 _ | .amH o1 _ => o1.hid
  | .amIns new => new.hid
  | .mPop L | .mRm L _ | .mTk L _ => sumHid L.aside
  | .mSubV L o | .mUuid L o | .mSt1 L o | .mSt2 L o | .mSt3 L o | .mSt4 L o | .mSt5 L o => o.hid + sumHid L.aside
  | .mHSub L u hr => u.hid + hr + sumHid L.aside
  | .mVAdd L u _ | .mIns L u => u.hid + sumHid L.aside
  | .mCnt L o | .mHLeft L o => o.hid + sumHid L.aside
  | .fIns _ u rest => u.hid + sumHid rest
  | .fTk _ _ rest => sumHid rest
  | _ => 0

/-- credit in the order counter -/
def cC : Pc → Nat
  | .add3 _ | .add4 _ => 1
  | .can1 _ | .can2 _ | .can3 _ => 1
  | .amV _ _ | .amH _ _ | .amIns _ => 1
  | .mPop L | .mRm L _ | .mTk L _ => L.aside.length
  | .mSubV L _ | .mUuid L _ | .mSt1 L _ | .mSt2 L _ | .mSt3 L _ | .mSt4 L _ | .mSt5 L _ => 1 + L.aside.length
  | .mHSub L _ _ | .mVAdd L _ _ | .mIns L _ | .mCnt L _ => 1 + L.aside.length
  | .mHLeft L _ => L.aside.length
  | .fIns _ _ rest => 1 + rest.length
  | .fTk _ _ rest => rest.length
  | _ => 0

def After.cV : After → Nat | .cont pc => Conc.cV pc | .done _ => 0
def After.cH : After → Nat | .cont pc => Conc.cH pc | .done _ => 0
def After.cC : After → Nat | .cont pc => Conc.cC pc | .done _ => 0

/-- ids of orders a thread holds outside the map and will (or may) put back into it -/
def held : Pc → List Id
  | .add0 o | .add1 o | .add2 o | .add3 o | .add4 o => [o.id]
  | .amV _ new | .amH _ new | .amIns new => [new.id]
  | .mPop L | .mRm L _ | .mTk L _ | .mCnt L _ | .mHLeft L _ => ids L.aside
  | .mSubV L o | .mUuid L o | .mSt1 L o | .mSt2 L o | .mSt3 L o | .mSt4 L o | .mSt5 L o => o.id :: ids L.aside
  | .mHSub L u _ | .mVAdd L u _ | .mIns L u => u.id :: ids L.aside
  | .fIns _ u rest => u.id :: ids rest
  | .fTk _ _ rest => ids rest
  | _ => []

def After.held : After → List Id | .cont pc => Conc.held pc | .done _ => []

/-- local well-formedness of a program counter -/
def PcOk : Pc → Prop
  | .mPop L | .mRm L _ => L.rem ≠ 0
  | .mSubV L _ | .mUuid L _ | .mSt1 L _ | .mSt2 L _ | .mSt3 L _ | .mSt4 L _ | .mSt5 L _ => L.rem ≠ 0
  | .mHSub _ u hr | .mVAdd _ u hr => hr ≤ u.vis
  | .mCnt _ o => o.kind.hasHidden = false → o.hid = 0
  | _ => True

def After.ok : After → Prop | .cont pc => PcOk pc | .done _ => True

end PLV.Conc
