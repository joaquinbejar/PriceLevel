/-
  The JSON text layer of the model: reading back what `render` printed gives the tree
  (`parseJson (render j) = some j`) for every *clean* tree — no floats, integers within the 64-bit
  ranges, strings of printable ASCII without quotes and backslashes (which is what every encoder
  of `PLV.Model.Json` produces). Hence `render` is injective on clean trees.

  For each kind of token there is one lemma saying what the reader does on the token followed by
  any text; the round trip uses it with the rest of the document, `JsonTrunc` with nothing.
-/
import PLV.Model.JsonText
import PLV.Lemmas.Bytes

namespace PLV.J
open PLV PLV.Text

def cleanStr (s : Str) : Bool := s.all (fun c => c != '"' && c != '\\' && decide (32 ≤ c.toNat) && decide (c.toNat < 128))

mutual
  def clean : Json → Bool
    | .null => true
    | .bool _ => true
    | .num (.ofNat n) => decide (n < 18446744073709551616)
    | .num (.negSucc n) => decide (n < 9223372036854775808)
    | .float => false
    | .str s => cleanStr s
    | .arr l => cleanList l
    | .obj kvs => cleanFields kvs
  def cleanList : List Json → Bool
    | [] => true
    | x :: rest => clean x && cleanList rest
  def cleanFields : List (Str × Json) → Bool
    | [] => true
    | (k, v) :: rest => cleanStr k && clean v && cleanFields rest
end

mutual
  /-- fuel enough for the reader to read the printed tree back (`readValue_render`): it spends one unit per nested
      value and one per element or member of a list -/
  def need : Json → Nat
    | .arr l => 1 + needList l
    | .obj kvs => 1 + needFields kvs
    | _ => 1
  def needList : List Json → Nat
    | [] => 0
    | x :: rest => 1 + max (need x) (needList rest)
  def needFields : List (Str × Json) → Nat
    | [] => 0
    | (_, v) :: rest => 1 + max (need v) (needFields rest)
end

/-- what `renderList` prints after its first element (`renderList_cons`); `fieldsTail` likewise for `renderFields` -/
def listTail : List Json → Str
  | [] => []
  | xs => ',' :: renderList xs

def fieldsTail : List (Str × Json) → Str
  | [] => []
  | kvs => ',' :: renderFields kvs

theorem renderList_cons (x : Json) (xs : List Json) : renderList (x :: xs) = render x ++ listTail xs := by
  cases xs <;> simp [renderList, listTail]

theorem renderFields_cons (k : Str) (v : Json) (rest : List (Str × Json)) :
    renderFields ((k, v) :: rest) = '"' :: (k ++ '"' :: ':' :: (render v ++ fieldsTail rest)) := by
  cases rest <;> simp [renderFields, fieldsTail]

theorem readString_append (s : Str) (hs : cleanStr s = true) (acc t : Str) :
    readString acc (s ++ t) = readString (s.reverse ++ acc) t := by
  induction s generalizing acc with
  | nil => rfl
  | cons c s ih =>
    simp only [cleanStr, List.all_cons, Bool.and_eq_true, bne_iff_ne, ne_eq, decide_eq_true_eq] at hs
    obtain ⟨⟨⟨⟨h1, h2⟩, h3⟩, _⟩, h4⟩ := hs
    rw [List.cons_append, readString.eq_def]; simp only [if_neg h1, if_neg h2, if_neg (show ¬ c.toNat < 32 by omega), ih h4]
    simp

theorem readString_clean (s : Str) (hs : cleanStr s = true) (acc rest : Str) :
    readString acc (s ++ '"' :: rest) = some (acc.reverse ++ s, rest) := by
  rw [readString_append s hs, readString.eq_def]; simp

/-- what may follow a value inside a document -/
inductive Stop : Str → Prop
  | nil : Stop []
  | comma (r : Str) : Stop (',' :: r)
  | brack (r : Str) : Stop (']' :: r)
  | brace (r : Str) : Stop ('}' :: r)

theorem stop_listTail (xs : List Json) (rest : Str) : Stop (listTail xs ++ ']' :: rest) := by
  cases xs with
  | nil => exact Stop.brack _
  | cons _ _ => exact Stop.comma _

theorem stop_fieldsTail (kvs : List (Str × Json)) (rest : Str) : Stop (fieldsTail kvs ++ '}' :: rest) := by
  cases kvs with
  | nil => exact Stop.brace _
  | cons _ _ => exact Stop.comma _

/-- the digits are taken up to the first character that is not one -/
theorem takeDigits_append (ds rest : Str) (hd : ∀ c ∈ ds, c.isDigit = true) (hr : ∀ c ∈ rest.head?, c.isDigit = false) :
    takeDigits (ds ++ rest) = (ds, rest) := by
  induction ds with
  | nil =>
    cases rest with
    | nil => rfl
    | cons c r => simp [takeDigits, hr c rfl]
  | cons d ds ih =>
    simp [takeDigits, hd d (List.mem_cons_self ..), ih fun c hc => hd c (List.mem_cons_of_mem _ hc)]

theorem Stop.no_digit {rest : Str} (hr : Stop rest) : ∀ c ∈ rest.head?, c.isDigit = false := by
  cases hr <;> simp

theorem numTail_stop {rest : Str} (hr : Stop rest) : numTail rest = (true, rest) := by
  cases hr <;> rfl

/-- the tree `readNumber` makes of a sign and a digit string without fraction or exponent: an integer if it fits `i64` /
    `u64`, else a float (serde_json's rule) -/
def numOf (neg : Bool) (n : Nat) : Json :=
  if neg then
    (if n = 0 then .float else if n ≤ 9223372036854775808 then .num (Int.negSucc (n - 1)) else .float)
  else (if n < 18446744073709551616 then .num (Int.ofNat n) else .float)

theorem readNumber_digits (neg : Bool) (ds rest : Str) (hd : ∀ c ∈ ds, c.isDigit = true) (hr : Stop rest) :
    readNumber ((if neg then ['-'] else []) ++ ds ++ rest) =
      if ds.isEmpty ∨ (ds.length > 1 ∧ ds.head? = some '0') then none
      else some (numOf neg (Nat.ofDigitChars 10 ds 0), rest) := by
  have hneg : (((if neg then ['-'] else []) ++ ds ++ rest).head? = some '-') = (neg = true) := by
    cases neg with
    | true => simp
    | false =>
      cases ds with
      | cons d r => simpa using isDigit_ne (hd d (List.mem_cons_self ..)) (by decide)
      | nil => cases hr <;> simp
  have htl : (if neg = true then ((if neg then ['-'] else []) ++ ds ++ rest).tail else (if neg then ['-'] else []) ++ ds ++ rest)
      = ds ++ rest := by cases neg <;> simp
  unfold readNumber numOf
  simp only [hneg, htl, decide_eq_true_eq, takeDigits_append ds rest hd hr.no_digit, numTail_stop hr, Bool.not_true, Bool.false_eq_true,
    if_false]
  by_cases h1 : ds.isEmpty = true
  · simp only [h1, true_or, if_true]
  · by_cases h2 : ds.length > 1 ∧ ds.head? = some '0'
    · simp only [if_neg h1, if_pos h2, if_pos (Or.inr h2)]
    · simp only [if_neg h1, if_neg h2, if_neg (not_or.2 ⟨h1, h2⟩), apply_ite (fun j : Json => some (j, rest))]

theorem readNumber_showNat (neg : Bool) (n : Nat) (rest : Str) (hr : Stop rest) :
    readNumber ((if neg then ['-'] else []) ++ showNat n ++ rest) = some (numOf neg n, rest) := by
  rw [readNumber_digits neg _ rest (showNat_digits n) hr, if_neg]
  · rw [ofDigitChars_showNat]
  · rintro (h | ⟨hl, hh⟩)
    · exact showNat_ne_nil n (by simpa using h)
    · have := showNat_head n hh
      subst this
      simp [showNat, Nat.toDigits_zero] at hl

theorem readValue_nil (f : Nat) : readValue f [] = none := by
  cases f <;> simp [readValue, skipWs]

theorem readValue_str (f : Nat) (r : Str) :
    readValue (f + 1) ('"' :: r) = (readString [] r).map (fun p => (.str p.1, p.2)) := by
  rw [readValue]; simp [skipWs, isWs]

/-- the reader looks for `]` right after `[` (the empty array) before it reads elements -/
theorem readValue_arr (f : Nat) (r : Str) (h : (skipWs r).head? ≠ some ']') :
    readValue (f + 1) ('[' :: r) = (readElems f r []).map (fun p => (.arr p.1, p.2)) := by
  rw [readValue]; simp (config := {decide := true}) only [skipWs, if_false, if_true]
  split
  · rename_i heq; simp [heq] at h
  · rfl

theorem readValue_obj (f : Nat) (r : Str) (h : (skipWs r).head? ≠ some '}') :
    readValue (f + 1) ('{' :: r) = (readMembers f r []).map (fun p => (.obj p.1, p.2)) := by
  rw [readValue]; simp (config := {decide := true}) only [skipWs, if_false, if_true]
  split
  · rename_i heq; simp [heq] at h
  · rfl

theorem readValue_num (f : Nat) {c : Char} (h : c = '-' ∨ c.isDigit = true) (r : Str) :
    readValue (f + 1) (c :: r) = readNumber (c :: r) := by
  have hc : ∀ d, d.isDigit = false → d ≠ '-' → c ≠ d := by
    rintro d hd hm rfl; rcases h with rfl | h
    · exact hm rfl
    · simp [h] at hd
  have hw : isWs c = false := by
    simp [isWs, hc ' ' (by decide) (by decide), hc '\n' (by decide) (by decide), hc '\t' (by decide) (by decide),
      hc '\r' (by decide) (by decide)]
  rw [readValue]
  simp only [skipWs, hw, Bool.false_eq_true, if_false, if_neg (hc '"' (by decide) (by decide)),
    if_neg (hc '[' (by decide) (by decide)), if_neg (hc '{' (by decide) (by decide)), if_pos h]

theorem readValue_null (f : Nat) (r : Str) :
    readValue (f + 1) ('n' :: r) = (litAt (lit "ull") r).map (fun r => (.null, r)) := by
  rw [readValue]; simp (config := {decide := true}) [skipWs]

theorem readValue_true (f : Nat) (r : Str) :
    readValue (f + 1) ('t' :: r) = (litAt (lit "rue") r).map (fun r => (.bool true, r)) := by
  rw [readValue]; simp (config := {decide := true}) [skipWs]

theorem readValue_false (f : Nat) (r : Str) :
    readValue (f + 1) ('f' :: r) = (litAt (lit "alse") r).map (fun r => (.bool false, r)) := by
  rw [readValue]; simp (config := {decide := true}) [skipWs]

theorem litAt_append (w r : Str) : litAt w (w ++ r) = some r := by simp [litAt]

theorem readValue_arr_nil (f : Nat) (r : Str) : readValue (f + 1) ('[' :: ']' :: r) = some (.arr [], r) := by
  rw [readValue]; simp (config := {decide := true}) [skipWs]

theorem readValue_obj_nil (f : Nat) (r : Str) : readValue (f + 1) ('{' :: '}' :: r) = some (.obj [], r) := by
  rw [readValue]; simp (config := {decide := true}) [skipWs]

theorem lit_null : lit "null" = 'n' :: lit "ull" := by decide
theorem lit_true : lit "true" = 't' :: lit "rue" := by decide
theorem lit_false : lit "false" = 'f' :: lit "alse" := by decide

theorem skipWs_cons {c : Char} (h : isWs c = false) (r : Str) : skipWs (c :: r) = c :: r := by
  simp [skipWs, h]

/-- the first character that is not white space is already there in a prefix that has one -/
theorem skipWs_prefix {q s : Str} (h : q <+: s) {c : Char} (hc : (skipWs q).head? = some c) : (skipWs s).head? = some c := by
  obtain ⟨t, rfl⟩ := h
  induction q with
  | nil => simp [skipWs] at hc
  | cons d q ih =>
    rw [List.cons_append, skipWs]; rw [skipWs] at hc
    split <;> rename_i hw
    · exact ih (by rwa [if_pos hw] at hc)
    · rwa [if_neg hw] at hc

/-- where the reader reads a value there is no `]` (this is how the reader tells `[]` from `[x, …]`) -/
theorem readValue_head {f : Nat} {s : Str} {x : Json × Str} (h : readValue f s = some x) : (skipWs s).head? ≠ some ']' := by
  intro e
  cases f with
  | zero => simp [readValue] at h
  | succ f =>
    rw [readValue] at h
    cases hs : skipWs s with
    | nil => simp [hs] at e
    | cons c r =>
      obtain rfl : c = ']' := by simpa [hs] using e
      simp (config := {decide := true}) [hs] at h

theorem need_pos (j : Json) : 0 < need j := by cases j <;> simp [need] <;> omega

mutual
  theorem readValue_render : (j : Json) → clean j = true → ∀ rest, Stop rest → ∀ fuel, need j ≤ fuel →
      readValue fuel (render j ++ rest) = some (j, rest)
    | j, _, _, _, 0, hf => absurd hf (by have := need_pos j; omega)
    | .null, _, rest, _, f + 1, _ => by
      rw [render, lit_null, List.cons_append, readValue_null, litAt_append]; rfl
    | .bool true, _, rest, _, f + 1, _ => by
      rw [render, if_pos rfl, lit_true, List.cons_append, readValue_true, litAt_append]; rfl
    | .bool false, _, rest, _, f + 1, _ => by
      rw [render, if_neg (by decide), lit_false, List.cons_append, readValue_false, litAt_append]; rfl
    | .float, hc, _, _, _, _ => by simp [clean] at hc
    | .num (.ofNat n), hc, rest, hr, f + 1, _ => by
      have hn : n < 18446744073709551616 := by simpa [clean] using hc
      have := readNumber_showNat false n rest hr
      obtain ⟨d, ds, hs, hd⟩ := showNat_cons n
      simp only [render, showInt, hs, Bool.false_eq_true, if_false, List.nil_append, List.cons_append] at this ⊢
      rw [readValue_num f (Or.inr hd), this, numOf, if_neg (by decide), if_pos hn]
    | .num (.negSucc n), hc, rest, hr, f + 1, _ => by
      have hn : n < 9223372036854775808 := by simpa [clean] using hc
      have := readNumber_showNat true (n + 1) rest hr
      simp only [render, showInt, if_true, List.cons_append, List.nil_append] at this ⊢
      rw [readValue_num f (Or.inl rfl), this, numOf, if_pos rfl, if_neg (by omega), if_pos (by omega)]; rfl
    | .str s, hc, rest, _, f + 1, _ => by
      have hs : cleanStr s = true := by simpa [clean] using hc
      simp only [render, List.cons_append, List.nil_append, List.append_assoc]
      rw [readValue_str, readString_clean s hs]; simp
    | .arr [], _, rest, _, f + 1, _ => readValue_arr_nil f rest
    | .arr (x :: xs), hc, rest, _, f + 1, hf => by
      have hl : cleanList (x :: xs) = true := by simpa [clean] using hc
      have hx : clean x = true := by simp [cleanList] at hl; exact hl.1
      simp only [render, List.cons_append, List.nil_append, List.append_assoc]
      -- the array is not `[]`: its first element reads back (the round trip of `x`), and where a value is read there is no `]`
      have hx1 : (skipWs (renderList (x :: xs) ++ ']' :: rest)).head? ≠ some ']' := by
        rw [renderList_cons, List.append_assoc]
        exact readValue_head (readValue_render x hx _ (stop_listTail xs rest) f (by simp [need, needList] at hf; omega))
      rw [readValue_arr f _ hx1, readElems_render (x :: xs) (by simp) hl rest f (by simp [need] at hf; omega) []]
      rfl
    | .obj [], _, rest, _, f + 1, _ => readValue_obj_nil f rest
    | .obj ((k, v) :: kvs), hc, rest, _, f + 1, hf => by
      have hl : cleanFields ((k, v) :: kvs) = true := by simpa [clean] using hc
      simp only [render, List.cons_append, List.nil_append, List.append_assoc]
      rw [readValue_obj f _ (by simp [renderFields_cons, skipWs, isWs]),
        readMembers_render ((k, v) :: kvs) (by simp) hl rest f (by simp [need] at hf; omega) []]
      rfl
  theorem readElems_render : (l : List Json) → l ≠ [] → cleanList l = true → ∀ rest fuel, needList l ≤ fuel →
      ∀ acc, readElems fuel (renderList l ++ ']' :: rest) acc = some (acc ++ l, rest)
    | [], h, _, _, _, _, _ => absurd rfl h
    | _ :: _, _, _, _, 0, hf, _ => by simp [needList] at hf
    | x :: xs, _, hc, rest, f + 1, hf, acc => by
      simp only [cleanList, Bool.and_eq_true] at hc
      simp only [needList] at hf
      rw [readElems, renderList_cons, List.append_assoc]
      rw [readValue_render x hc.1 _ (stop_listTail xs rest) f (by omega)]
      cases xs with
      | nil => simp [listTail, skipWs, isWs]
      | cons y ys =>
        have := readElems_render (y :: ys) (by simp) hc.2 rest f (by omega) (acc ++ [x])
        simpa [listTail, skipWs, isWs] using this
  theorem readMembers_render : (kvs : List (Str × Json)) → kvs ≠ [] → cleanFields kvs = true → ∀ rest fuel,
      needFields kvs ≤ fuel → ∀ acc, readMembers fuel (renderFields kvs ++ '}' :: rest) acc = some (acc ++ kvs, rest)
    | [], h, _, _, _, _, _ => absurd rfl h
    | _ :: _, _, _, _, 0, hf, _ => by simp [needFields] at hf
    | (k, v) :: kvs, _, hc, rest, f + 1, hf, acc => by
      simp only [cleanFields, Bool.and_eq_true] at hc
      simp only [needFields] at hf
      rw [readMembers, renderFields_cons, List.cons_append, skipWs_cons (by decide)]
      simp only [List.append_assoc, List.cons_append, readString_clean k hc.1.1, List.reverse_nil, List.nil_append,
        skipWs_cons (c := ':') (by decide)]
      rw [readValue_render v hc.1.2 _ (stop_fieldsTail kvs rest) f (by omega)]
      cases kvs with
      | nil => simp [fieldsTail, skipWs, isWs]
      | cons y ys =>
        have := readMembers_render (y :: ys) (by simp) hc.2 rest f (by omega) (acc ++ [(k, v)])
        simpa [fieldsTail, skipWs, isWs] using this
end

theorem head_render (j : Json) (h : clean j = true) {t : Str} (ht : Stop t) {q : Str} (hq : q <+: render j ++ t) :
    (skipWs q).head? ≠ some ']' :=
  fun e => readValue_head (readValue_render j h t ht _ (Nat.le_refl _)) (skipWs_prefix hq e)

theorem render_ne_nil (j : Json) : render j ≠ [] := by
  cases j with
  | num n => cases n <;> simp [render, showInt, showNat_ne_nil]
  | bool b => cases b <;> simp [render, lit_true, lit_false]
  | _ => simp [render, lit]

mutual
  theorem need_le : (j : Json) → need j ≤ (render j).length
    | .arr l => by have := needList_le l; simp [need, render]; omega
    | .obj kvs => by have := needFields_le kvs; simp [need, render]; omega
    | .null => List.length_pos_iff.2 (render_ne_nil _)
    | .bool _ => List.length_pos_iff.2 (render_ne_nil _)
    | .num _ => List.length_pos_iff.2 (render_ne_nil _)
    | .float => List.length_pos_iff.2 (render_ne_nil _)
    | .str _ => List.length_pos_iff.2 (render_ne_nil _)
  theorem needList_le : (l : List Json) → needList l ≤ (renderList l).length + 1
    | [] => by simp [needList]
    | x :: xs => by
      have h1 := need_le x
      have h2 := needList_le xs
      rw [renderList_cons, needList]
      cases xs <;> simp [listTail, needList] at h2 ⊢ <;> omega
  theorem needFields_le : (kvs : List (Str × Json)) → needFields kvs ≤ (renderFields kvs).length + 1
    | [] => by simp [needFields]
    | (k, v) :: rest => by
      have h1 := need_le v
      have h2 := needFields_le rest
      rw [renderFields_cons, needFields]
      cases rest <;> simp [fieldsTail, needFields] at h2 ⊢ <;> omega
end

theorem parseJson_render (j : Json) (h : clean j = true) : parseJson (render j) = some j := by
  have := readValue_render j h [] Stop.nil ((render j).length + 2) (by have := need_le j; omega)
  simp only [List.append_nil] at this
  simp [parseJson, this, skipWs]

theorem render_injective (a b : Json) (ha : clean a = true) (hb : clean b = true) (h : render a = render b) : a = b :=
  Option.some.inj ((parseJson_render a ha).symm.trans (h ▸ parseJson_render b hb))

theorem cleanStr_ascii {s : Str} (h : cleanStr s = true) : Ascii s := fun c hc => by
  have := List.all_eq_true.1 h c hc
  simp only [Bool.and_eq_true, decide_eq_true_eq] at this
  exact this.2

mutual
  theorem render_ascii : (j : Json) → clean j = true → ∀ c ∈ render j, c.toNat < 128
    | .null, _ => by decide
    | .bool true, _ => by decide
    | .bool false, _ => by decide
    | .float, h => by simp [clean] at h
    | .num (.ofNat n), _ => showNat_ascii n
    | .num (.negSucc n), _ => Ascii.cons (by decide) (showNat_ascii _)
    | .str s, h => Ascii.cons (by decide) ((cleanStr_ascii (by simpa [clean] using h)).append (by decide))
    | .arr l, h => Ascii.cons (by decide) (Ascii.append (renderList_ascii l (by simpa [clean] using h)) (by decide))
    | .obj kvs, h => Ascii.cons (by decide) (Ascii.append (renderFields_ascii kvs (by simpa [clean] using h)) (by decide))
  theorem renderList_ascii : (l : List Json) → cleanList l = true → ∀ c ∈ renderList l, c.toNat < 128
    | [], _ => by simp [renderList]
    | x :: xs, h => by
      simp only [cleanList, Bool.and_eq_true] at h
      rw [renderList_cons]
      refine Ascii.append (render_ascii x h.1) ?_
      cases xs with
      | nil => simp [listTail, Ascii]
      | cons y ys => exact Ascii.cons (by decide) (renderList_ascii (y :: ys) h.2)
  theorem renderFields_ascii : (kvs : List (Str × Json)) → cleanFields kvs = true → ∀ c ∈ renderFields kvs, c.toNat < 128
    | [], _ => by simp [renderFields]
    | (k, v) :: rest, h => by
      simp only [cleanFields, Bool.and_eq_true] at h
      rw [renderFields_cons]
      refine Ascii.cons (by decide) (Ascii.append (cleanStr_ascii h.1.1) (Ascii.cons (by decide) (Ascii.cons (by decide)
        (Ascii.append (render_ascii v h.1.2) ?_))))
      cases rest with
      | nil => simp [fieldsTail, Ascii]
      | cons y ys => exact Ascii.cons (by decide) (renderFields_ascii (y :: ys) h.2)
end

end PLV.J
