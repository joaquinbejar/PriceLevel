/-
  `PriceLevel::from_str` on a printed level: the substring search for the orders section, the field
  map of the header, the bracket-aware splitting of the orders (helper lemmas for C16).
-/
import PLV.Lemmas.TextLists

namespace PLV.Text
open PLV

theorem not_startsWith (t pre rest : Str) (c : Char) (hc : c ∉ pre) (hl : t.length < pre.length) :
    startsWith (t ++ [c]) (pre ++ rest) = false := by
  simp only [startsWith]
  apply decide_eq_false
  intro h
  have hm : c ∈ (pre ++ rest).take (t ++ [c]).length := by rw [h]; simp
  rw [List.take_append_of_le_length (by simp; omega)] at hm
  exact hc (List.mem_of_mem_take hm)

/-- the first occurrence of a pattern ending in a character that does not occur before it -/
theorem findSub_unique (tagInit : Str) (c : Char) (a b : Str) (hc : c ∉ a) (hci : c ∉ tagInit) :
    findSub (tagInit ++ [c]) (a ++ (tagInit ++ c :: b)) = some a.length := by
  induction a with
  | nil =>
    have : startsWith (tagInit ++ [c]) (tagInit ++ c :: b) = true := by
      have := startsWith_append (tagInit ++ [c]) b
      simpa using this
    cases hb : tagInit ++ c :: b with
    | nil => simp at hb
    | cons x xs =>
      rw [hb] at this
      simp only [List.nil_append, findSub, this, if_true]
      rfl
  | cons x a ih =>
    have hca : c ∉ a := fun h => hc (List.mem_cons_of_mem _ h)
    have hns : startsWith (tagInit ++ [c]) ((x :: a ++ tagInit) ++ ([c] ++ b)) = false :=
      not_startsWith tagInit (x :: a ++ tagInit) ([c] ++ b) c
        (by simp only [List.cons_append, List.mem_cons, List.mem_append, not_or]
            exact ⟨fun e => hc (by simp [e]), hca, hci⟩) (by simp; omega)
    have hns' : startsWith (tagInit ++ [c]) (x :: (a ++ (tagInit ++ c :: b))) = false := by simpa using hns
    simp only [List.cons_append, findSub, hns', Bool.false_eq_true, if_false, ih hca]
    simp

def hdrFields (price vis hid cnt : Nat) : List Str :=
  [kv "price" (showNat price), kv "visible_quantity" (showNat vis), kv "hidden_quantity" (showNat hid),
    kv "order_count" (showNat cnt)]

theorem hdr_kvs (price vis hid cnt : Nat) : KVs (hdrFields price vis hid cnt)
    [(lit "price", showNat price), (lit "visible_quantity", showNat vis), (lit "hidden_quantity", showNat hid),
      (lit "order_count", showNat cnt)] := by
  unfold hdrFields; kv_fields

/-- the header of a printed level, after `PriceLevel:` and before `orders=[` -/
def hdr (price vis hid cnt : Nat) : Str := joinSep [';'] (hdrFields price vis hid cnt) ++ [';']

/-- the field map of `PriceLevel::from_str` on the printed header: it finds the price, and what is left is the orders
    section, for any text `body` in its place -/
theorem finish_hdr (price vis hid cnt : Nat) (hp : price < W) (body : Str) :
    parseLevel.finish (hdr price vis hid cnt) (some body) =
      if body.isEmpty then .ok (price, [])
      else
        let pieces := splitOrders 0 [] body
        let pieces' := match pieces.reverse with
          | last :: initRev => if last.isEmpty then initRev.reverse else pieces
          | [] => pieces
        match pieces'.mapM (fun p => match parseOrder p with
            | .ok o => (.ok o : Res Order)
            | .error _ => .error .parseError) with
        | .ok l => .ok (price, l)
        | .error e => .error e := by
  unfold parseLevel.finish
  simp only [hdr, (hdr_kvs price vis hid cnt).parts]
  simp only [List.reverse_cons, List.reverse_nil, List.nil_append, List.cons_append, List.find?_cons,
    lit_inj, String.reduceEq, decide_false, decide_true, Option.bind_some, Option.map_some, parseU64_showNat hp]
  rfl

/-- … and on a printed list of orders in that place, each of which reads back -/
theorem finish_orders (price vis hid cnt : Nat) (os : List Order) (hp : price < W) (he : Elems (os.map showOrder))
    (h : ∀ o ∈ os, parseOrder (showOrder o) = .ok o) :
    parseLevel.finish (hdr price vis hid cnt) (some (joinSep [','] (os.map showOrder))) = .ok (price, os) := by
  rw [finish_hdr price vis hid cnt hp]
  cases os with
  | nil => simp [joinSep]
  | cons o os =>
    obtain ⟨last, init, hr, hl⟩ := he.last (by simp)
    rw [if_neg (by simpa using he.join_ne_nil (by simp)), he.splitOrders_join (by simp)]
    simp only [hr, hl, Bool.false_eq_true, if_false]
    rw [mapM_show showOrder _ (o :: os) fun o ho => by simp only [h o ho]; rfl]
    rfl

theorem lit_tag : lit "orders=[" = lit "orders=" ++ ['['] := by rw [lit_ofList, lit_ofList]; rfl

/-- the printed level, taken apart -/
theorem showLevel_eq (price vis hid cnt : Nat) (os : List Order) :
    showLevel price vis hid cnt os =
      lit "PriceLevel:" ++ (hdr price vis hid cnt ++ (lit "orders=[" ++ (joinSep [','] (os.map showOrder) ++ [']']))) := by
  simp only [showLevel, hdr, hdrFields, kv, joinSep, lit, String.reduceToList, List.append_assoc, List.cons_append, List.nil_append]

theorem hdr_recChars (price vis hid cnt : Nat) : RecChars (hdr price vis hid cnt) :=
  (recChars_joinSemi _ (hdr_kvs price vis hid cnt).recChars).append (by unfold RecChars; decide)

/-- `PriceLevel::from_str` cuts the orders section out of a text whose header has no `[` and whose
    orders have no `]`, and hands header and section to the field map -/
theorem parseLevel_sections (H body : Str) (hH : '[' ∉ H) (hb : ']' ∉ body) :
    parseLevel (lit "PriceLevel:" ++ (H ++ (lit "orders=[" ++ (body ++ [']'])))) = parseLevel.finish H (some body) := by
  have hfind : findSub (lit "orders=[") (H ++ (lit "orders=[" ++ (body ++ [']']))) = some H.length := by
    rw [lit_tag, List.append_assoc, List.singleton_append]
    exact findSub_unique (lit "orders=") '[' _ _ hH (by decide)
  have hidx : idxOf ']' (lit "orders=[" ++ (body ++ [']'])) = some (8 + body.length) := by
    rw [← List.append_assoc, idxOf_append [] (by simpa using ⟨by decide, hb⟩)]
    simp [show (lit "orders=[").length = 8 by decide]
  unfold parseLevel
  simp only [startsWith_append, Bool.not_true, Bool.false_eq_true, if_false, List.drop_left, hfind, List.take_left, hidx]
  rw [show 8 = (lit "orders=[").length by decide, Nat.add_sub_cancel_left, List.take_left,
    List.drop_eq_nil_of_le (by simp; omega), List.append_nil]

end PLV.Text
