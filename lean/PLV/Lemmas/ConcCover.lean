/-
  The ticket-cover invariant (helper lemmas for C08): every key of the map has a ticket in the queue,
  or a thread is about to push / has just popped its ticket.
-/
import PLV.Lemmas.ConcShare
import PLV.Lemmas.OMap

namespace PLV.Conc
open PLV

/-- tickets a thread is responsible for: inserted but not yet pushed, or popped but not yet used -/
def pendingTk : Pc → List Id
  | .add5 o => [o.id]
  | .amTk new => [new.id]
  | .mTk _ u => [u.id]
  | .fTk _ u _ => [u.id]
  | .mRm _ t => [t]
  | _ => []

def After.pendingTk : After → List Id | .cont pc => Conc.pendingTk pc | .done _ => []

theorem afterVisit_tk (L : MLoc) : (afterVisit L).pendingTk = [] :=
  afterVisit_elim (P := fun a => a.pendingTk = []) L (fun _ => rfl) (fun _ => rfl) (fun _ _ _ => rfl)

theorem afterStats_tk (L : MLoc) (o : Order) : (afterStats L o).pendingTk = [] :=
  afterStats_elim (P := fun a => a.pendingTk = []) L o (fun _ => rfl) (fun _ _ _ => afterVisit_tk _)
    (fun _ _ _ => rfl) (fun _ _ _ _ => rfl)

/-- after a step every key is covered by the queue or by the stepping thread, or it was a key
    before that did not depend on the stepping thread and whose ticket is still in the queue -/
theorem Step.cover {s s' : Shared} {pc : Pc} {a : After} (h : Step s pc s' a) (x : Id) (hx : x ∈ ids s'.map) :
    (x ∈ s'.tickets ∨ x ∈ pendingTk a.pc) ∨ (x ∈ ids s.map ∧ x ∉ pendingTk pc ∧ (x ∈ s.tickets → x ∈ s'.tickets)) := by
  induction h
  -- an insert: the new key is covered by the inserting thread, which owes it a ticket
  case add4 | amIns | mIns | fIns =>
    rcases ids_insert.1 hx with h | rfl
    · exact Or.inr ⟨h, by simp [pendingTk], id⟩
    · exact Or.inl (Or.inr (by simp [After.pc, pendingTk]))
  -- a push: the pushed key is in the queue, every other key is where it was
  case add5 | amTk | mTk | fTk_done | fTk_more =>
    -- by cases on `x ∈ s.tickets ++ [pushed id]` (the pushed id has a different name in each of the five rows)
    refine Classical.byCases (fun e => Or.inl (Or.inl e)) (fun e => Or.inr ⟨hx, ?_, List.mem_append_left _⟩)
    simp only [pendingTk, List.mem_append, List.mem_singleton, not_or] at e ⊢
    exact e.2
  case can0_some | am1_amV | am1_amH | am1_amIns | mRm_exec | mRm_dry =>
    exact Or.inr ⟨(mem_ids_erase.1 hx).1, by simp [pendingTk, (mem_ids_erase.1 hx).2], id⟩
  case mPop_some L t ts ht =>
    by_cases e : x = t
    · exact Or.inl (Or.inr (by simp [After.pc, pendingTk, e]))
    · exact Or.inr ⟨hx, by simp [pendingTk], fun h => by simpa [ht, e] using h⟩
  case mRm_none L t hf =>
    exact Or.inr ⟨hx, by simpa [pendingTk] using fun e : x = t => find_none.1 hf (e ▸ hx), id⟩
  all_goals exact Or.inr ⟨hx, by simp [pendingTk], id⟩

def Cover (c : Cfg) : Prop :=
  ∀ x ∈ ids c.sh.map, x ∈ c.sh.tickets ∨ ∃ (j : Nat) (t : Thread), c.ts[j]? = some t ∧ x ∈ pendingTk t.pc

theorem share_tk (x : Id) : Share (fun t => (pendingTk t.pc).count x) (fun pc => (pendingTk pc).count x) :=
  .pc (fun pc => (pendingTk pc).count x) rfl (by intro op; cases op <;> rfl)

/-- the cover as a count, the form in which it is a sum invariant -/
theorem cover_iff (c : Cfg) : Cover c ↔
    ∀ x ∈ ids c.sh.map, 0 < c.sh.tickets.count x + sumT (fun t => (pendingTk t.pc).count x) c.ts := by
  simp only [Cover, Nat.add_pos_iff_pos_or_pos, sumT_pos_iff, List.count_pos_iff]

theorem Cover.step {c : Cfg} (hc : Cover c) (i : Nat) : Cover (Conc.step c i).1 := by
  rw [cover_iff] at hc ⊢
  intro x hx
  rw [step_sh] at hx ⊢
  have hs := (share_tk x).step c i
  have hle := (share_tk x).le c i
  rcases (tstep_step c.sh (c.pcOf i)).cover x hx with (h | h) | ⟨hm, hnp, htk⟩
  · have := List.count_pos_iff.2 h; omega
  · have := List.count_pos_iff.2 h; omega
  · have := hc x hm
    have := List.count_eq_zero.2 hnp
    by_cases ht : x ∈ c.sh.tickets
    · have := List.count_pos_iff.2 (htk ht); omega
    · have := List.count_eq_zero.2 ht; omega

theorem Cover.run {c : Cfg} (hc : Cover c) (sched : List Nat) : Cover (Conc.run c sched) :=
  run_inv (fun _ i h => h.step i) sched hc

end PLV.Conc
