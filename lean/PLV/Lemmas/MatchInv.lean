/-
  Further invariants of the loop of `match_order` (helper lemmas for C02 and C06): accounting,
  exhaustion of displayed liquidity (`ExhInv`), transaction fields, per-maker ledger (`TxInv`); proved
  together with `AggInv` in one pass over the loop (`matchLoop_inv`).
-/
import PLV.Lemmas.LevelInv
import PLV.Judge

namespace PLV

theorem fillsOf_append (id : Id) (a b : List Tx) : fillsOf id (a ++ b) = fillsOf id a + fillsOf id b := by
  induction a with
  | nil => simp [fillsOf]
  | cons x rest ih => simp [fillsOf, ih]; omega

theorem fillsOf_visit (id : Id) (a : Acc) (p : Nat) (t : Id) (o : Order) (r : MatchOut) :
    fillsOf id (a.visit p t o r).txs = fillsOf id a.txs + (if o.id = id then r.consumed else 0) := by
  rw [visit_txs]; split
  · simp [fillsOf_append, fillsOf]
  · split <;> omega

/-- `q0` = requested quantity, `v0` = displayed quantity when the call started. `mono`: what was displayed at
    the start is still displayed in the map or has been executed (so a call that stops with an empty map has
    executed at least `v0`); `aside0`: set-aside orders display nothing. -/
structure ExhInv (q0 v0 : Nat) (rem : Nat) (m : OMap) (a : Acc) : Prop where
  acct : sumQty a.txs + rem = q0
  aside0 : ∀ u ∈ a.aside, u.vis = 0
  mono : v0 ≤ sumVis m + sumQty a.txs

theorem ExhInv.visit {q0 v0 rem : Nat} {m m' : OMap} {a a' : Acc} (he : ExhInv q0 v0 rem m a) (p : Nat) (t : Id)
    (o : Order) (htx : a'.txs = (a.visit p t o (matchAgainst o rem)).txs)
    (hm : sumVis m ≤ sumVis m' + (matchAgainst o rem).consumed) (ha : ∀ u ∈ a'.aside, u.vis = 0) :
    ExhInv q0 v0 (matchAgainst o rem).remaining m' a' := by
  have := ma_acct o rem; have := he.acct; have := he.mono
  exact ⟨by rw [htx, sumQty_visit]; omega, ha, by rw [htx, sumQty_visit]; omega⟩

/-- the transaction ids of a call are the generator's consecutive counter values from `g0` -/
def idsFrom : Nat → List Tx → Prop
  | _, [] => True
  | g, t :: ts => t.txid = g % W ∧ idsFrom (g + 1) ts

theorem idsFrom_append (g : Nat) (a : List Tx) (t : Tx) :
    idsFrom g (a ++ [t]) ↔ idsFrom g a ∧ t.txid = (g + a.length) % W := by
  induction a generalizing g with
  | nil => simp [idsFrom]
  | cons x rest ih =>
    simp only [List.cons_append, idsFrom, ih, List.length_cons]
    have : g + 1 + rest.length = g + (rest.length + 1) := by omega
    rw [this]; constructor
    · rintro ⟨h1, h2, h3⟩; exact ⟨⟨h1, h2⟩, h3⟩
    · rintro ⟨⟨h1, h2⟩, h3⟩; exact ⟨h1, h2, h3⟩

/-- What the transactions of a call say, against the map `m0` the call started from. `sticky` is what makes
    `filled ↔` go through when an order leaves with nothing consumed: an order that already has fills in this
    call cannot do that (`ma_sticky`), so such an order has no fills and rightly stays out of `filled`. -/
structure TxInv (price : Nat) (taker : Id) (g0 : Nat) (m0 : OMap) (m : OMap) (a : Acc) : Prop where
  txok : ∀ t ∈ a.txs, t.qty > 0 ∧ t.price = price ∧ t.taker = taker ∧
    ∃ x0, m0.find t.maker = some x0 ∧ t.takerSide = x0.side.opposite
  origin : ∀ x ∈ m, ∃ x0, m0.find x.id = some x0 ∧ x0.side = x.side
  gids : g0 < W → idsFrom g0 a.txs ∧ a.g = (g0 + a.txs.length) % W
  ledger : ∀ id, fillsOf id a.txs + tot id m + tot id a.aside ≤ tot id m0
  filled : ∀ id, id ∈ a.filled ↔ (0 < fillsOf id a.txs ∧ id ∉ ids m ∧ id ∉ ids a.aside)
  sticky : ∀ x ∈ m, 0 < fillsOf x.id a.txs → 0 < x.vis ∨ ∀ q, (matchAgainst x q).updated ≠ none

theorem TxInv.visit_common {price taker g0 m0 m a o rem} (hi : TxInv price taker g0 m0 m a)
    (hom : o ∈ m) :
    (∀ t ∈ (a.visit price taker o (matchAgainst o rem)).txs, t.qty > 0 ∧ t.price = price ∧ t.taker = taker ∧
      ∃ x0, m0.find t.maker = some x0 ∧ t.takerSide = x0.side.opposite) ∧
    (g0 < W → idsFrom g0 (a.visit price taker o (matchAgainst o rem)).txs ∧
      (a.visit price taker o (matchAgainst o rem)).g =
        (g0 + (a.visit price taker o (matchAgainst o rem)).txs.length) % W) := by
  obtain ⟨x0, hx0, hside⟩ := hi.origin o hom
  rw [visit_txs, visit_g]
  split
  · rename_i hc
    refine ⟨?_, ?_⟩
    · intro t ht
      simp at ht
      rcases ht with ht | rfl
      · exact hi.txok t ht
      · exact ⟨hc, rfl, rfl, x0, hx0, by rw [hside]⟩
    · intro hg
      refine ⟨?_, ?_⟩
      · rw [idsFrom_append]; exact ⟨(hi.gids hg).1, (hi.gids hg).2⟩
      · rw [(hi.gids hg).2]; simp [wadd_one_mod]
  · exact ⟨hi.txok, hi.gids⟩

theorem TxInv.aside_step {price taker g0 m0 m ts a o m' ts' u rem}
    (hp : popLive m ts = some (o, m', ts')) (hu : (matchAgainst o rem).updated = some u)
    (hs : (matchAgainst o rem).consumed = 0 ∧ (matchAgainst o rem).hiddenRed = 0) (h : AggInv m ts a)
    (hi : TxInv price taker g0 m0 m a) :
    TxInv price taker g0 m0 m' ((a.visit price taker o (matchAgainst o rem)).pushAside u) := by
  obtain ⟨hf, rfl⟩ := popLive_spec hp
  obtain rfl := ma_aside_eq hu hs
  have hom := (find_some hf).1
  have htot := tot_find h.nodupM hf
  -- no transaction is made: the order only moves from the map to the set-aside list
  rw [visit_idle _ _ _ _ _ hs.1]
  refine ⟨hi.txok, fun x hx => hi.origin x (mem_erase.1 hx).1, hi.gids, fun id => ?_, fun id => ?_,
    fun x hx => hi.sticky x (mem_erase.1 hx).1⟩
  · have hl := hi.ledger id
    simp only [Acc.pushAside, tot_append, tot_singleton]
    by_cases e : u.id = id
    · subst e; rw [tot_erase_self]; simp; omega
    · rw [tot_erase_ne (fun e' => e e'.symm)]; simp [e]; omega
  · simp only [Acc.pushAside, ids_append, ids_cons, ids_nil, List.mem_append, List.mem_singleton]
    rw [hi.filled id]
    by_cases e : u.id = id
    · subst e; simp [mem_ids_of_mem hom]
    · have : id ≠ u.id := fun e' => e e'.symm
      simp [mem_ids_erase, this]

theorem TxInv.requeue_step {price taker g0 m0 m ts a o m' ts' u rem}
    (hp : popLive m ts = some (o, m', ts')) (hu : (matchAgainst o rem).updated = some u) (h : AggInv m ts a)
    (hi : TxInv price taker g0 m0 m a) :
    TxInv price taker g0 m0 (m'.insert u)
      ((a.visit price taker o (matchAgainst o rem)).requeue (matchAgainst o rem).hiddenRed) := by
  obtain ⟨hf, rfl⟩ := popLive_spec hp
  have hom := (find_some hf).1
  have hc := hi.visit_common (rem := rem) hom
  have hst := ma_stay hu
  have hsf := ma_stay_fields hu
  have htot := tot_find h.nodupM hf
  have hfresh : u.id ∉ ids (m.erase o.id) := by rw [hst.1]; exact not_mem_ids_erase _ _
  refine ⟨by simpa using hc.1, ?_, by simpa using hc.2, ?_, ?_, ?_⟩
  · intro x hx
    rcases mem_insert.1 hx with hx | rfl
    · exact hi.origin x (mem_erase.1 hx.1).1
    · obtain ⟨x0, h1, h2⟩ := hi.origin o hom
      exact ⟨x0, by rw [hsf.1]; exact h1, by rw [hsf.2.2.1]; exact h2⟩
  · intro id
    have hl := hi.ledger id
    simp only [requeue_txs, requeue_aside, visit_aside, fillsOf_visit, tot_insert_fresh hfresh, hst.1]
    by_cases e : o.id = id
    · subst e; rw [tot_erase_self]; simp; omega
    · rw [tot_erase_ne (fun e' => e e'.symm)]; simp [e]; omega
  · intro id
    simp only [requeue_filled, requeue_txs, requeue_aside, visit_aside, visit_filled, fillsOf_visit]
    simp only [show ¬ ((matchAgainst o rem).consumed > 0 ∧ (matchAgainst o rem).updated = none) by
      rw [hu]; simp, if_false]
    rw [hi.filled id]
    by_cases e : o.id = id
    · subst e
      have : o.id ∈ ids ((m.erase o.id).insert u) := ids_insert.2 (Or.inr hst.1.symm)
      simp [mem_ids_of_mem hom, this]
    · have hne : id ≠ o.id := fun e' => e e'.symm
      have : id ∈ ids ((m.erase o.id).insert u) ↔ id ∈ ids m := by
        rw [ids_insert, mem_ids_erase, hst.1]; simp [hne]
      simp [e, this]
  · intro x hx hfx
    rcases mem_insert.1 hx with hx | rfl
    · have hxm := mem_erase.1 hx.1
      have hne : ¬ o.id = x.id := fun e => hxm.2 e.symm
      simp only [requeue_txs, fillsOf_visit, if_neg hne, Nat.add_zero] at hfx
      exact hi.sticky x hxm.1 hfx
    · exact ma_sticky hu

theorem TxInv.leave_step {price taker g0 m0 m ts a o m' ts' rem}
    (hp : popLive m ts = some (o, m', ts')) (hu : (matchAgainst o rem).updated = none) (h : AggInv m ts a)
    (hi : TxInv price taker g0 m0 m a) :
    TxInv price taker g0 m0 m'
      ((a.visit price taker o (matchAgainst o rem)).leave o (matchAgainst o rem).hiddenRed) := by
  obtain ⟨hf, rfl⟩ := popLive_spec hp
  have hom := (find_some hf).1
  have hc := hi.visit_common (rem := rem) hom
  have hl := ma_leave hu
  have htot := tot_find h.nodupM hf
  have hdis : o.id ∉ ids a.aside := fun hx => h.disj _ hx (mem_ids_of_mem hom)
  refine ⟨by simpa using hc.1, ?_, by simpa using hc.2, ?_, ?_, ?_⟩
  · intro x hx; exact hi.origin x (mem_erase.1 hx).1
  · intro id
    have hl' := hi.ledger id
    simp only [leave_txs, leave_aside, visit_aside, fillsOf_visit]
    by_cases e : o.id = id
    · subst e; rw [tot_erase_self]; simp; omega
    · rw [tot_erase_ne (fun e' => e e'.symm)]; simp [e]; omega
  · intro id
    simp only [leave_filled, leave_txs, leave_aside, visit_aside, visit_filled, fillsOf_visit, hu, and_true]
    have hnf : o.id ∉ a.filled := fun hx => ((hi.filled o.id).1 hx).2.1 (mem_ids_of_mem hom)
    by_cases e : o.id = id
    · subst e
      have hne : o.id ∉ ids (m.erase o.id) := not_mem_ids_erase _ _
      by_cases hc0 : (matchAgainst o rem).consumed > 0
      · simp [hc0, hne, hdis]; omega
      · -- it leaves with nothing consumed, so it has no fills in this call (`sticky`)
        have hz0 : fillsOf o.id a.txs = 0 := by
          cases hfo : fillsOf o.id a.txs with
          | zero => rfl
          | succ k =>
            rcases hi.sticky o hom (by omega) with hv | hq
            · omega
            · exact absurd hu (hq rem)
        simp [hc0, hnf, hz0]
    · have hne : id ≠ o.id := fun e' => e e'.symm
      by_cases hc0 : (matchAgainst o rem).consumed > 0
      · simp [hc0, e, hne, mem_ids_erase, hi.filled id]
      · simp [hc0, e, hne, mem_ids_erase, hi.filled id]
  · intro x hx hfx
    have hxm := mem_erase.1 hx
    have hne : ¬ o.id = x.id := fun e => hxm.2 e.symm
    simp only [leave_txs, fillsOf_visit, if_neg hne, Nat.add_zero] at hfx
    exact hi.sticky x hxm.1 hfx

theorem matchLoop_inv (price : Nat) (taker : Id) (q0 v0 g0 : Nat) (m0 : OMap) (rem : Nat) (m : OMap)
    (ts : List Id) (a : Acc) (h : AggInv m ts a ∧ ExhInv q0 v0 rem m a ∧ TxInv price taker g0 m0 m a) :
    let res := matchLoop price taker rem m ts a
    AggInv res.2.1 res.2.2.1 res.2.2.2 ∧ ExhInv q0 v0 res.1 res.2.1 res.2.2.2 ∧
      TxInv price taker g0 m0 res.2.1 res.2.2.2 := by
  refine matchLoop_ind price taker
    (fun rem m ts a => AggInv m ts a ∧ ExhInv q0 v0 rem m a ∧ TxInv price taker g0 m0 m a)
    ?_ ?_ ?_ ?_ rem m ts a h
  · intro rem m ts a _ hp ⟨h, he, hi⟩
    exact ⟨{ h with covered := covered_pop_none hp h.covered }, he, hi⟩
  · -- set aside
    intro rem m ts a o m' ts' u hz hp hu hs ⟨h, he, hi⟩
    refine ⟨h.aside_step hp hu hs, ?_, hi.aside_step hp hu hs h⟩
    obtain ⟨hf, rfl⟩ := popLive_spec hp
    obtain rfl := ma_aside_eq hu hs
    have hv0 : u.vis = 0 := ma_idle hz hs.1
    refine he.visit price taker u rfl ?_ fun x hx => ?_
    · rw [← (erase_find h.nodupM hf).1, hv0]; exact Nat.le_add_right ..
    · simp at hx
      rcases hx with hx | rfl
      · exact he.aside0 x hx
      · exact hv0
  · -- re-queued
    intro rem m ts a o m' ts' u hz hp hu hs ⟨h, he, hi⟩
    refine ⟨h.requeue_step hp hu, ?_, hi.requeue_step hp hu h⟩
    obtain ⟨hf, rfl⟩ := popLive_spec hp
    have hst := ma_stay hu
    have hfresh : u.id ∉ ids (m.erase o.id) := by rw [hst.1]; exact not_mem_ids_erase _ _
    refine he.visit price taker o (by simp) ?_ (by simpa using he.aside0)
    rw [(sum_insert_fresh hfresh).1, ← (erase_find h.nodupM hf).1]; omega
  · -- left the book
    intro rem m ts a o m' ts' hz hp hu ⟨h, he, hi⟩
    refine ⟨h.leave_step hp hu, ?_, hi.leave_step hp hu h⟩
    obtain ⟨hf, rfl⟩ := popLive_spec hp
    refine he.visit price taker o (by simp) ?_ (by simpa using he.aside0)
    rw [← (erase_find h.nodupM hf).1, (ma_leave hu).1]; exact Nat.le_refl _

theorem Level.Inv.loop {l : Level} (h : l.Inv) (q : Nat) (t : Id) (g : Nat) :
    let res := matchLoop l.price t q l.map l.tickets
      { vis := l.vis, hid := l.hid, cnt := l.cnt, stats := l.stats, g := g }
    AggInv res.2.1 res.2.2.1 res.2.2.2 ∧ ExhInv q (sumVis l.map) res.1 res.2.1 res.2.2.2 ∧
      TxInv l.price t g l.map res.2.1 res.2.2.2 := by
  refine matchLoop_inv l.price t q (sumVis l.map) g l.map q l.map l.tickets _
    ⟨h.agg g, ⟨by simp [sumQty], by simp, by simp [sumQty]⟩, by simp, ?_,
      fun hg => by simp [idsFrom, Nat.mod_eq_of_lt hg], by simp [fillsOf, tot], by simp [fillsOf], by simp [fillsOf]⟩
  intro x hx; exact ⟨x, find_of_mem h.nodup hx, rfl⟩

end PLV
