/-
  The two semantics agree: a call executed by the small-step model with no other thread taking a
  step in between (`Reach`: one or more steps of `tstep`, up to the call's return; `ReachA` also
  allows none) ends in exactly the state, and returns exactly the value, that the big-step sequential model
  (`Level.addOrder`, `Level.matchOrder`, `Level.removeOrder`, `Level.amend`, the reads, the id
  generator) computes in one go (`solo_op`); hence the same for a thread between calls in any configuration
  (`solo_eq_seq`), for a whole program (`solo_thread`) and for all threads one after another (`serial_run`).
  This is the "two semantics" tie of DESIGN §3.
-/
import PLV.Lemmas.ConcShare
import PLV.Lemmas.OMap

namespace PLV.Conc
open PLV

/-- `Reach s pc s' a`: starting at `pc` in shared state `s` and taking one or more steps with
    nobody else running, the thread arrives in `s'` about to do `a` (continue at a program counter,
    or return a value). -/
inductive Reach : Shared → Pc → Shared → After → Prop
  | one (s : Shared) (pc : Pc) : Reach s pc (tstep s pc).1 (tstep s pc).2.1
  | trans {s s1 s2 : Shared} {pc pc1 : Pc} {a : After} :
      Reach s pc s1 (.cont pc1) → Reach s1 pc1 s2 a → Reach s pc s2 a

/-- the same, allowing zero steps: the thread is about to do `a0` in `s` -/
def ReachA (s : Shared) (a0 : After) (s' : Shared) (a : After) : Prop :=
  match a0 with
  | .cont pc => Reach s pc s' a
  | .done r => s' = s ∧ a = .done r

theorem ReachA.done (s : Shared) (r : String) : ReachA s (.done r) s (.done r) := ⟨rfl, rfl⟩

/-- a thread running alone for at most `n` further steps; it stops when its call returns -/
def solo : Nat → Shared → After → Shared × After
  | n + 1, s, .cont pc => solo n (tstep s pc).1 (tstep s pc).2.1
  | _, s, a => (s, a)

/-- a stretch of a call whose steps do not depend on the shared state is run by evaluation: `n + 1`
    steps from `pc` end where `solo` says -/
theorem Reach.of_solo (n : Nat) : ∀ {s s' : Shared} {pc : Pc} {a : After},
    solo n (tstep s pc).1 (tstep s pc).2.1 = (s', a) → Reach s pc s' a := by
  induction n with
  | zero => intro s s' pc a h; unfold solo at h; cases h; exact Reach.one s pc
  | succ n ih =>
    intro s s' pc a h
    have h1 := Reach.one s pc
    cases ha : (tstep s pc).2.1 <;> rw [ha] at h h1 <;> simp only [solo] at h
    · exact h1.trans (ih h)
    · cases h; exact h1

open PLV.Proto in
def showUpd : UpdOut → String
  | .ok none => "ok=-"
  | .ok (some o) => "ok=" ++ showOrder o
  | .errSamePrice => "err"

/-- the locals of a finished match, as the small-step model shows them -/
def resultLoc (r : MatchResult) : MLoc := { taker := r.taker, rem := r.remaining, txs := r.txs, filled := r.filled }

open PLV.Proto in
/-- One call, in one go, on the sequential model: new level, new generator counter, what the call
    returns (rendered as the small-step model renders it). -/
def seqOp (l : Level) (g : Nat) : COp → Level × Nat × String
  | .add o => (l.addOrder o, g, "ok")
  | .matchQ q t => let r := l.matchOrder q t g; (r.1, r.2.2, showResult (resultLoc r.2.1))
  | .cancel id => let r := l.removeOrder id; (r.1, g, showUpd r.2)
  | .amend id n => let r := l.amend id n; (r.1, g, showUpd r.2)
  | .readVis => (l, g, toString l.vis)
  | .readHid => (l, g, toString l.hid)
  | .readCnt => (l, g, toString l.cnt)
  | .readList => (l, g, showList showOrder (canonSort l.map))
  | .next => (l, wadd g 1, toString g)

theorem solo_add (s : Shared) (o : Order) :
    Reach s (.add0 o) (Shared.ofLevel (s.level.addOrder o) s.g) (.done "ok") :=
  .of_solo 5 rfl

theorem solo_cancel (s : Shared) (id : Id) :
    Reach s (.can0 id) (Shared.ofLevel (s.level.removeOrder id).1 s.g) (.done (showUpd (s.level.removeOrder id).2)) := by
  cases hf : s.map.find id with
  | none => exact .of_solo 0 (by simp only [solo, tstep, Level.removeOrder, Shared.level, hf]; rfl)
  | some o => exact .of_solo 4 (by simp only [solo, tstep, Level.removeOrder, Shared.level, hf]; rfl)

theorem solo_amend (s : Shared) (id : Id) (n : Nat) :
    Reach s (.am0 id n) (Shared.ofLevel (s.level.amend id n).1 s.g) (.done (showUpd (s.level.amend id n).2)) := by
  cases hf : s.map.find id with
  | none => exact .of_solo 0 (by simp only [solo, tstep, Level.amend, Shared.level, hf]; rfl)
  | some o1 =>
    have hid : (o1.withReduced n).id = id := by rw [withReduced_id]; exact (find_some hf).2
    have hh : (o1.withReduced n).hid = o1.hid := withReduced_hid o1 n
    -- the decisions of the call are taken first, so that every program counter `solo` meets is a constructor
    by_cases hv : o1.vis = (o1.withReduced n).vis
    · exact .of_solo 3 (by
        simp [solo, tstep, Level.amend, Shared.level, Shared.ofLevel, showUpd, adjust, hf, hh, hid, ← hv])
    · by_cases hgt : (o1.withReduced n).vis > o1.vis <;> exact .of_solo 4 (by
        simp [solo, tstep, Level.amend, Shared.level, Shared.ofLevel, showUpd, adjust, hf, hh, hid, hv, hgt])

theorem Reach.thenA {s s1 s2 : Shared} {pc : Pc} {a1 a2 : After}
    (h1 : Reach s pc s1 a1) (h2 : ReachA s1 a1 s2 a2) : Reach s pc s2 a2 := by
  cases a1 with
  | cont pc1 => exact Reach.trans h1 h2
  | done r => obtain ⟨rfl, rfl⟩ := h2; exact h1

theorem ReachA.thenA {s s1 s2 : Shared} {a0 a1 a2 : After}
    (h1 : ReachA s a0 s1 a1) (h2 : ReachA s1 a1 s2 a2) : ReachA s a0 s2 a2 := by
  cases a0 with
  | cont pc => exact Reach.thenA h1 h2
  | done r => obtain ⟨rfl, rfl⟩ := h1; exact h2

/-- the shared state and the locals of a match in progress, from the big-step loop's variables -/
def mkS (price : Nat) (m : OMap) (ts : List Id) (a : Acc) : Shared :=
  { price := price, vis := a.vis, hid := a.hid, cnt := a.cnt, map := m, tickets := ts, stats := a.stats, g := a.g }
def mkL (taker : Id) (rem : Nat) (a : Acc) : MLoc :=
  { taker := taker, rem := rem, txs := a.txs, filled := a.filled, aside := a.aside }

/-- how a match leaves once its loop is over: it returns, or first re-queues what it set aside.
    `tstep` spells this out twice — in `afterVisit` (nothing left to match) and in the `.mPop` row
    (queue empty) -/
def exitA (L : MLoc) : After :=
  match L.aside with
  | [] => .done (showResult L)
  | u :: rest => .cont (.fIns L u rest)

theorem solo_requeue (L : MLoc) (rest : List Order) : ∀ (s : Shared) (u : Order),
    Reach s (.fIns L u rest)
      { s with map := (requeueAside s.map s.tickets (u :: rest)).1,
               tickets := (requeueAside s.map s.tickets (u :: rest)).2 } (.done (showResult L)) := by
  induction rest with
  | nil => intro s u; exact .of_solo 1 rfl
  | cons v rest' ih => intro s u; exact (Reach.of_solo 1 rfl).trans (ih _ v)

theorem solo_exit (s : Shared) (L : MLoc) :
    ReachA s (exitA L)
      { s with map := (requeueAside s.map s.tickets L.aside).1,
               tickets := (requeueAside s.map s.tickets L.aside).2 } (.done (showResult L)) := by
  unfold exitA
  cases h : L.aside with
  | nil => exact ⟨rfl, rfl⟩
  | cons u rest => exact solo_requeue L rest s u

/-- a loop that goes on pops: the `.mPop` / `.mRm` rows, ticket by ticket, are `popLive` -/
theorem solo_pop (price : Nat) (m : OMap) (a : Acc) (L : MLoc) (hz : L.rem ≠ 0) : ∀ ts : List Id,
    ReachA (mkS price m ts a) (afterVisit L)
      ((popLive m ts).elim (mkS price m [] a) fun x => mkS price x.2.1 x.2.2 a)
      ((popLive m ts).elim (exitA L) fun x =>
        .cont (if (matchAgainst x.1 L.rem).consumed > 0 then .mSubV L x.1 else .mSt1 L x.1)) := by
  rw [afterVisit, if_neg hz]
  intro ts
  induction ts with
  | nil => exact Reach.one _ _
  | cons t rest ih =>
    unfold popLive
    cases hf : m.find t with
    | some o => exact .of_solo 1 (by simp only [solo, tstep, mkS, hf, Option.elim])
    | none => exact (Reach.of_solo 1 (by simp only [solo, tstep, mkS, hf])).trans ih

/-- one maker visit up to and including the statistics -/
theorem solo_visit (price : Nat) (taker : Id) (rem : Nat) (m : OMap) (ts : List Id) (a : Acc) (o : Order) :
    Reach (mkS price m ts a)
      (if (matchAgainst o rem).consumed > 0 then .mSubV (mkL taker rem a) o else .mSt1 (mkL taker rem a) o)
      (mkS price m ts (a.visit price taker o (matchAgainst o rem)))
      (afterStats (mkL taker rem (a.visit price taker o (matchAgainst o rem))) o) := by
  by_cases hc : (matchAgainst o rem).consumed > 0 <;> by_cases ht : o.ts > 0 <;> simp only [hc, if_true, if_false]
  · exact .of_solo 6 (by simp [solo, tstep, mkS, mkL, Acc.visit, hc, ht, Stats.recordExec])
  · exact .of_solo 5 (by simp [solo, tstep, mkS, mkL, Acc.visit, hc, ht, Stats.recordExec])
  · exact .of_solo 4 (by simp [solo, tstep, mkS, mkL, Acc.visit, hc, ht, Stats.recordExec])
  · exact .of_solo 3 (by simp [solo, tstep, mkS, mkL, Acc.visit, hc, ht, Stats.recordExec])

theorem solo_after_aside (taker : Id) (rem : Nat) (a2 : Acc) (o u : Order)
    (hu : (matchAgainst o rem).updated = some u)
    (hs : (matchAgainst o rem).consumed = 0 ∧ (matchAgainst o rem).hiddenRed = 0) :
    afterStats (mkL taker rem a2) o = afterVisit (mkL taker (matchAgainst o rem).remaining (a2.pushAside u)) := by
  simp only [afterStats, mkL, hu, hs, and_self, if_true, Acc.pushAside]

/-- a visited maker that stays is re-queued: the refill moves between the counters, then insert and
    ticket -/
theorem solo_after_requeue (price : Nat) (taker : Id) (rem : Nat) (m : OMap) (ts : List Id) (a2 : Acc) (o u : Order)
    (hu : (matchAgainst o rem).updated = some u)
    (hs : ¬ ((matchAgainst o rem).consumed = 0 ∧ (matchAgainst o rem).hiddenRed = 0)) :
    ReachA (mkS price m ts a2) (afterStats (mkL taker rem a2) o)
      (mkS price (m.insert u) (ts ++ [u.id]) (a2.requeue (matchAgainst o rem).hiddenRed))
      (afterVisit (mkL taker (matchAgainst o rem).remaining (a2.requeue (matchAgainst o rem).hiddenRed))) := by
  by_cases hr : (matchAgainst o rem).hiddenRed > 0 <;> simp only [afterStats, mkL, hu, hs, if_false, hr, if_true, ReachA]
  · exact .of_solo 3 (by simp [solo, tstep, mkS, Acc.requeue, hr])
  · exact .of_solo 1 (by simp [solo, tstep, mkS, Acc.requeue, hr])

/-- a visited maker that leaves is discounted: the order count and, for an exhausted order that does
    not replenish, the hidden quantity it still carried -/
theorem solo_after_leave (price : Nat) (taker : Id) (rem : Nat) (m : OMap) (ts : List Id) (a2 : Acc) (o : Order)
    (hu : (matchAgainst o rem).updated = none) :
    ReachA (mkS price m ts a2) (afterStats (mkL taker rem a2) o)
      (mkS price m ts (a2.leave o (matchAgainst o rem).hiddenRed))
      (afterVisit (mkL taker (matchAgainst o rem).remaining (a2.leave o (matchAgainst o rem).hiddenRed))) := by
  have h0 := (ma_leave hu).2
  by_cases hh : (o.kind.hasHidden && decide (o.hid > 0)) = true <;> simp only [afterStats, mkL, hu, ReachA]
  · exact .of_solo 1 (by simp [solo, tstep, mkS, Acc.leave, hh, h0])
  · exact .of_solo 0 (by simp [solo, tstep, mkS, Acc.leave, hh, h0])

/-- The loop of `match_order`, step by step, arrives where the big-step loop and `finishMatch` say.
    (`l` is there for its price; a returned `L` still carries the set-aside list, `resultLoc` none:
    `showResult` does not look.) -/
theorem solo_loop (l : Level) (taker : Id) (rem : Nat) (m : OMap) (ts : List Id) (a : Acc) :
    ReachA (mkS l.price m ts a) (afterVisit (mkL taker rem a))
      (Shared.ofLevel (l.finishMatch taker (matchLoop l.price taker rem m ts a)).1
        (l.finishMatch taker (matchLoop l.price taker rem m ts a)).2.2)
      (.done (showResult (resultLoc (l.finishMatch taker (matchLoop l.price taker rem m ts a)).2.1))) := by
  fun_induction matchLoop l.price taker rem m ts a with
  | case1 m ts a =>
    exact solo_exit (mkS l.price m ts a) (mkL taker 0 a)
  | case2 rem m ts a hz hp =>
    have h := solo_pop l.price m a (mkL taker rem a) hz ts
    simp only [hp, Option.elim] at h
    exact h.thenA (solo_exit (mkS l.price m [] a) (mkL taker rem a))
  | case3 rem m ts a hz o m' ts' hp r a2 u hu hs ih =>
    have h := solo_pop l.price m a (mkL taker rem a) hz ts
    simp only [hp, Option.elim] at h
    refine h.thenA (Reach.thenA (solo_visit l.price taker rem m' ts' a o) ?_)
    rw [solo_after_aside taker rem _ o u hu hs]
    exact ih
  | case4 rem m ts a hz o m' ts' hp r a2 u hu hs ih =>
    have h := solo_pop l.price m a (mkL taker rem a) hz ts
    simp only [hp, Option.elim] at h
    exact h.thenA (Reach.thenA (solo_visit l.price taker rem m' ts' a o)
      ((solo_after_requeue l.price taker rem m' ts' _ o u hu hs).thenA ih))
  | case5 rem m ts a hz o m' ts' hp r a2 hu ih =>
    have h := solo_pop l.price m a (mkL taker rem a) hz ts
    simp only [hp, Option.elim] at h
    exact h.thenA (Reach.thenA (solo_visit l.price taker rem m' ts' a o)
      ((solo_after_leave l.price taker rem m' ts' _ o hu).thenA ih))

theorem showResult_congr (L L' : MLoc) (h1 : L.txs = L'.txs) (h2 : L.rem = L'.rem) (h3 : L.filled = L'.filled) :
    showResult L = showResult L' := by
  unfold showResult; rw [h1, h2, h3]

theorem solo_match (s : Shared) (q : Nat) (t : Id) (hq : q ≠ 0) :
    Reach s (.mPop { taker := t, rem := q })
      (Shared.ofLevel (s.level.matchOrder q t s.g).1 (s.level.matchOrder q t s.g).2.2)
      (.done (showResult (resultLoc (s.level.matchOrder q t s.g).2.1))) := by
  have h := solo_loop s.level t q s.map s.tickets { vis := s.vis, hid := s.hid, cnt := s.cnt, stats := s.stats, g := s.g }
  simp only [afterVisit, mkL, hq, if_false] at h
  exact h

/-- **One call, alone.** Whatever the operation, the small-step execution of the call with no other
    thread in between ends in the big-step result. -/
theorem solo_op (s : Shared) (op : COp) (hok : OpOk op) :
    Reach s (start op) (Shared.ofLevel (seqOp s.level s.g op).1 (seqOp s.level s.g op).2.1)
      (.done (seqOp s.level s.g op).2.2) := by
  cases op with
  | add o => exact solo_add s o
  | matchQ q t => exact solo_match s q t hok
  | cancel id => exact solo_cancel s id
  | amend id n => exact solo_amend s id n
  | readVis => exact Reach.one s .rdVis
  | readHid => exact Reach.one s .rdHid
  | readCnt => exact Reach.one s .rdCnt
  | readList => exact Reach.one s .rdList
  | next => exact Reach.one s .nx

/-- the idle step does nothing, so a run from `.idle` goes nowhere -/
theorem Reach.of_idle {s s' : Shared} {pc : Pc} {a : After} (h : Reach s pc s' a) :
    pc = .idle → s' = s ∧ a = .cont .idle := by
  induction h with
  | one s pc => rintro rfl; exact ⟨rfl, rfl⟩
  | trans _ _ ih1 ih2 => intro hp; obtain ⟨rfl, h1⟩ := ih1 hp; cases h1; exact ih2 rfl

theorem norm_of_live {t : Thread} (h : t.pc ≠ .idle) : t.norm = some t := by
  unfold Thread.norm
  split <;> simp_all

/-- a `Reach` of one thread's program counter is a run of the configuration in which only that thread's slot is
    scheduled, whatever the other threads are -/
theorem run_of_reach {s s' : Shared} {pc : Pc} {a : After} (h : Reach s pc s' a) (hp : pc ≠ .idle) :
    ∀ (ts : List Thread) (i : Nat) (t tn : Thread), ts[i]? = some t → t.norm = some tn → tn.pc = pc →
      ∃ n, run ⟨s, ts⟩ (List.replicate n i) = ⟨s', ts.set i (tn.after a)⟩ := by
  induction h with
  | one s pc =>
    intro ts i t tn hi hn hpc
    refine ⟨1, ?_⟩
    simp [run, step_of (c := ⟨s, ts⟩) hi hn, hpc]
  | @trans s s1 s2 pc pc1 a h1 h2 ih1 ih2 =>
    intro ts i t tn hi hn hpc
    obtain ⟨n1, e1⟩ := ih1 hp ts i t tn hi hn hpc
    -- a thread that stands at `.idle` in the middle of a run stays there, and so does the state
    by_cases hp1 : pc1 = .idle
    · obtain ⟨rfl, rfl⟩ := h2.of_idle hp1; exact ⟨n1, hp1 ▸ e1⟩
    have hi' : (ts.set i (tn.after (.cont pc1)))[i]? = some (tn.after (.cont pc1)) := by
      simp [(List.getElem?_eq_some_iff.1 hi).1]
    obtain ⟨n2, e2⟩ := ih2 hp1 (ts.set i (tn.after (.cont pc1))) i (tn.after (.cont pc1)) (tn.after (.cont pc1)) hi'
      (norm_of_live (by simpa [Thread.after] using hp1)) (by simp [Thread.after])
    refine ⟨n1 + n2, ?_⟩
    rw [← List.replicate_append_replicate, run_append, e1, e2]
    congr 1
    rw [List.set_set]
    cases a <;> simp [Thread.after]

theorem start_ne_idle (op : COp) : start op ≠ .idle := by cases op <;> simp [start]

/-- **`solo_eq_seq`.** In any configuration, a thread that is between calls and runs its next call
    to completion while the others stand still takes the shared state from `l` to exactly the level
    the sequential model computes for that call, and records exactly its return value. -/
theorem solo_eq_seq (l : Level) (g : Nat) (ts : List Thread) (i : Nat) (op : COp) (rest : List COp)
    (rets : List String) (hi : ts[i]? = some { pc := .idle, todo := op :: rest, rets := rets }) (hok : OpOk op) :
    ∃ n, run ⟨Shared.ofLevel l g, ts⟩ (List.replicate n i) =
      ⟨Shared.ofLevel (seqOp l g op).1 (seqOp l g op).2.1,
       ts.set i { pc := .idle, todo := rest, rets := rets ++ [(seqOp l g op).2.2] }⟩ := by
  have h := solo_op (Shared.ofLevel l g) op hok
  obtain ⟨n, e⟩ := run_of_reach h (start_ne_idle op) ts i _ { pc := start op, todo := rest, rets := rets } hi rfl rfl
  exact ⟨n, by simpa [Thread.after] using e⟩

/-- the sequential meaning of a list of calls issued one after another -/
def seqOps (l : Level) (g : Nat) (rets : List String) : List COp → Level × Nat × List String
  | [] => (l, g, rets)
  | op :: rest => seqOps (seqOp l g op).1 (seqOp l g op).2.1 (rets ++ [(seqOp l g op).2.2]) rest

/-- a thread that runs its whole program alone -/
theorem solo_thread (ops : List COp) : ∀ (l : Level) (g : Nat) (ts : List Thread) (i : Nat) (rets : List String),
    ts[i]? = some { pc := .idle, todo := ops, rets := rets } → (∀ op ∈ ops, OpOk op) →
    ∃ n, run ⟨Shared.ofLevel l g, ts⟩ (List.replicate n i) =
      ⟨Shared.ofLevel (seqOps l g rets ops).1 (seqOps l g rets ops).2.1,
       ts.set i { pc := .idle, todo := [], rets := (seqOps l g rets ops).2.2 }⟩ := by
  induction ops with
  | nil =>
    intro l g ts i rets hi _
    refine ⟨0, ?_⟩
    simp only [List.replicate, run, seqOps]
    congr 1
    obtain ⟨_, he⟩ := List.getElem?_eq_some_iff.1 hi
    rw [← he, List.set_getElem_self]
  | cons op rest ih =>
    intro l g ts i rets hi hok
    obtain ⟨n1, e1⟩ := solo_eq_seq l g ts i op rest rets hi (hok op (by simp))
    obtain ⟨n2, e2⟩ := ih (seqOp l g op).1 (seqOp l g op).2.1
      (ts.set i { pc := .idle, todo := rest, rets := rets ++ [(seqOp l g op).2.2] }) i
      (rets ++ [(seqOp l g op).2.2]) (by simp [(List.getElem?_eq_some_iff.1 hi).1]) (fun o ho => hok o (by simp [ho]))
    refine ⟨n1 + n2, ?_⟩
    rw [← List.replicate_append_replicate, run_append, e1, e2]
    simp [seqOps, List.set_set]

/-- the sequential meaning of a serial execution: new level, new counter, each thread's returns -/
def serial (l : Level) (g : Nat) : List (List COp) → Level × Nat × List (List String)
  | [] => (l, g, [])
  | ops :: rest =>
    let r := seqOps l g [] ops
    let r2 := serial r.1 r.2.1 rest
    (r2.1, r2.2.1, r.2.2 :: r2.2.2)

def doneThread (rs : List String) : Thread := { pc := .idle, todo := [], rets := rs }

theorem serial_run (progs : List (List COp)) : ∀ (l : Level) (g : Nat) (pre : List Thread),
    (∀ ops ∈ progs, ∀ op ∈ ops, OpOk op) →
    ∃ sched, run ⟨Shared.ofLevel l g, pre ++ progs.map (fun ops => ({ todo := ops } : Thread))⟩ sched =
      ⟨Shared.ofLevel (serial l g progs).1 (serial l g progs).2.1, pre ++ (serial l g progs).2.2.map doneThread⟩ := by
  induction progs with
  | nil => intro l g pre _; exact ⟨[], by simp [run, serial]⟩
  | cons ops rest ih =>
    intro l g pre hok
    have hi : (pre ++ (({ todo := ops } : Thread) :: rest.map (fun ops => ({ todo := ops } : Thread))))[pre.length]? =
        some { pc := .idle, todo := ops, rets := [] } := by
      simp
    obtain ⟨n, e⟩ := solo_thread ops l g _ pre.length [] hi (hok ops (by simp))
    obtain ⟨sched2, e2⟩ := ih (seqOps l g [] ops).1 (seqOps l g [] ops).2.1
      (pre ++ [doneThread (seqOps l g [] ops).2.2]) (fun o ho => hok o (by simp [ho]))
    refine ⟨List.replicate n pre.length ++ sched2, ?_⟩
    rw [run_append]
    simp only [List.map_cons] at e ⊢
    rw [e]
    have hset : (pre ++ (({ todo := ops } : Thread) :: rest.map (fun ops => ({ todo := ops } : Thread)))).set pre.length
          { pc := .idle, todo := [], rets := (seqOps l g [] ops).2.2 } =
        (pre ++ [doneThread (seqOps l g [] ops).2.2]) ++ rest.map (fun ops => ({ todo := ops } : Thread)) := by
      simp [List.set_append_right, doneThread]
    rw [hset, e2]
    simp [serial]

theorem serial_allDone (s : Shared) (pre : List (List String)) : allDone ⟨s, pre.map doneThread⟩ = true := by
  simp [allDone, Thread.finished, doneThread]

end PLV.Conc
