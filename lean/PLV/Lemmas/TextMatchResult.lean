/-
  `MatchResult::from_str` on a printed match result (helper lemmas for C16). The field loop works
  with positions in the whole text, but reads the text only from the current position on. The lemmas
  therefore speak of what is left, `s.drop pos = field ++ rest`; one step moves the position by the
  length of the field, and `drop_add` gives what is left then.
-/
import PLV.Lemmas.TextLists

namespace PLV.Text
open PLV

theorem drop_add {s a b : Str} {i : Nat} (h : s.drop i = a ++ b) : s.drop (i + a.length) = b := by
  rw [← List.drop_drop, h, List.drop_left]

theorem lt_of_drop {s a : Str} {c : Char} {i : Nat} (h : s.drop i = c :: a) : ¬ i ≥ s.length :=
  fun hi => by simp [List.drop_eq_nil_of_le hi] at h

/-- the bracket scanner on a body without brackets stops at the closing bracket -/
theorem scanClose_at {s body rest : Str} {i : Nat} (h : s.drop i = body ++ ']' :: rest)
    (hb : ∀ c ∈ body, c ≠ '[' ∧ c ≠ ']') {fuel : Nat} (hf : body.length < fuel) :
    scanClose s i 1 fuel = some (i + body.length) := by
  obtain ⟨f, rfl⟩ : ∃ f, fuel = f + 1 := ⟨fuel - 1, by omega⟩
  have hi : s[i]? = (body ++ ']' :: rest).head? := by rw [← h, List.head?_drop]
  induction body generalizing i f with
  | nil => simp [scanClose, hi]
  | cons c body ih =>
    have hc := hb c (List.mem_cons_self ..)
    have h' : s.drop (i + 1) = body ++ ']' :: rest := drop_add (a := [c]) h
    rw [scanClose, hi]
    simp only [List.cons_append, List.head?_cons, hc.1, hc.2, if_false]
    obtain ⟨f', rfl⟩ : ∃ f', f = f' + 1 := ⟨f - 1, by simp at hf; omega⟩
    rw [ih h' (fun x hx => hb x (List.mem_cons_of_mem _ hx)) f' (by simp at hf; omega) (by rw [← h', List.head?_drop])]
    simp; omega

theorem mrLoop_end {s : Str} {pos : Nat} (h : pos ≥ s.length) (acc : MRFields) (fuel : Nat) : mrLoop s pos acc fuel = .ok acc := by
  cases fuel <;> simp [mrLoop, h]

/-- the slot a field fills, by name (the loop rejects any other name; `MRField` admits none) -/
def mrPut (name value : Str) (acc : MRFields) : MRFields :=
  if name = lit "order_id" then { acc with orderId := some value }
  else if name = lit "remaining_quantity" then { acc with remaining := some value }
  else if name = lit "is_complete" then { acc with complete := some value }
  else if name = lit "transactions" then { acc with txs := some value }
  else if name = lit "filled_order_ids" then { acc with filled := some value }
  else acc

/-- the fields the loop reads: a scalar without `;`, or one of the two bracketed lists with no bracket inside -/
inductive MRField : Str → Str → Prop
  | scalar {n v : Str} (hn : n = lit "order_id" ∨ n = lit "remaining_quantity" ∨ n = lit "is_complete") (hv : ';' ∉ v) : MRField n v
  | txs {body : Str} (hb : ∀ c ∈ body, c ≠ '[' ∧ c ≠ ']') : MRField (lit "transactions") (lit "Transactions:[" ++ (body ++ [']']))
  | filled {body : Str} (hb : ∀ c ∈ body, c ≠ '[' ∧ c ≠ ']') : MRField (lit "filled_order_ids") (['['] ++ (body ++ [']']))

/-- a bracketed value `v` at `p`: the scanner stops at its last character -/
theorem bracket_cut {s pre body tail : Str} {p : Nat} (k : Nat) (hk : pre.length = k) (h : s.drop p = pre ++ (body ++ [']']) ++ tail)
    (hb : ∀ c ∈ body, c ≠ '[' ∧ c ≠ ']') :
    ∃ i, scanClose s (p + k) 1 (s.length + 1) = some i ∧ i + 1 = p + (pre ++ (body ++ [']'])).length := by
  subst hk
  have h3 : s.drop (p + pre.length) = body ++ ']' :: tail := drop_add (a := pre) (by simpa using h)
  have := congrArg List.length h3
  exact ⟨_, scanClose_at h3 hb (by simp at this; omega), by simp; omega⟩

theorem mrLoop_field {s tail n v : Str} {pos : Nat} (hf : MRField n v) (h : s.drop pos = pair (n, v) ++ tail)
    (ht : tail = [] ∨ ∃ r, tail = ';' :: r) (acc : MRFields) (fuel : Nat) :
    mrLoop s pos acc (fuel + 1) = mrLoop s (pos + (pair (n, v)).length + 1) (mrPut n v acc) fuel := by
  have hne : '=' ∉ n := by cases hf <;> (try rcases ‹_ ∨ _› with rfl | rfl | rfl) <;> decide
  have h0 : s.drop pos = n ++ '=' :: (v ++ tail) := by simpa [pair] using h
  have h1 : s.drop (pos + n.length + 1) = v ++ tail := by
    have := drop_add (a := n ++ ['=']) (b := v ++ tail) (by simpa using h0)
    simpa [Nat.add_assoc] using this
  have h2 : s.drop (pos + n.length + 1 + v.length) = tail := drop_add h1
  have hp : pos + (pair (n, v)).length = pos + n.length + 1 + v.length := by simp [pair]; omega
  have e1 : idxOf '=' (s.drop pos) = some n.length := by rw [h0]; exact idxOf_append _ hne
  have e2 : (s.drop pos).take n.length = n := by rw [h0]; exact List.take_left
  rw [mrLoop, hp]
  simp only [if_neg (show ¬ pos ≥ s.length by cases n <;> exact lt_of_drop h0), e1, e2, h1]
  -- what follows the field: the end of the text (the loop stops, at this position or the next) or a `;`
  rcases ht with rfl | ⟨r, rfl⟩
  · have hend := List.drop_eq_nil_iff.1 h2
    have hno : ¬ pos + n.length + 1 + v.length < s.length := by omega
    rw [mrLoop_end (Nat.le_succ_of_le hend)]
    cases hf with
    | scalar hn hv =>
      simp only [List.append_nil, idxOf_none hv, mrLoop_end (Nat.le_refl _)]
      rcases hn with rfl | rfl | rfl <;> simp only [mrPut, lit_inj, String.reduceEq, if_true, if_false]
    | txs hb =>
      obtain ⟨i, hsc, hi⟩ := bracket_cut 14 (by decide) h1 hb
      simp only [lit_inj, String.reduceEq, if_true, if_false, mrPut, startsWith_wrapped, Bool.not_true, Bool.false_eq_true,
        hsc, hi, hno, mrLoop_end hend, Nat.add_sub_cancel_left, List.take_left]
    | filled hb =>
      obtain ⟨i, hsc, hi⟩ := bracket_cut 1 rfl h1 hb
      simp only [lit_inj, String.reduceEq, if_true, if_false, mrPut, startsWith_wrapped, Bool.not_true, Bool.false_eq_true,
        hsc, hi, hno, false_and, mrLoop_end hend, Nat.add_sub_cancel_left, List.take_left]
  · have hlt : pos + n.length + 1 + v.length < s.length := Nat.lt_of_not_ge (lt_of_drop h2)
    have hsep : s[pos + n.length + 1 + v.length]? = some ';' := by rw [← List.head?_drop, h2]; rfl
    cases hf with
    | scalar hn hv =>
      simp only [idxOf_append _ hv, List.take_left]
      rcases hn with rfl | rfl | rfl <;> simp only [mrPut, lit_inj, String.reduceEq, if_true, if_false]
    | txs hb =>
      obtain ⟨i, hsc, hi⟩ := bracket_cut 14 (by decide) h1 hb
      simp only [lit_inj, String.reduceEq, if_true, if_false, mrPut, startsWith_wrapped, Bool.not_true, Bool.false_eq_true,
        hsc, hi, hlt, hsep, Nat.add_sub_cancel_left, List.take_left]
    | filled hb =>
      obtain ⟨i, hsc, hi⟩ := bracket_cut 1 rfl h1 hb
      simp only [lit_inj, String.reduceEq, if_true, if_false, mrPut, startsWith_wrapped, Bool.not_true, Bool.false_eq_true,
        hsc, hi, hlt, hsep, and_self, Nat.add_sub_cancel_left, List.take_left]

inductive MRFieldList : List (Str × Str) → Prop
  | nil : MRFieldList []
  | cons {n v : Str} {fs} (h : MRField n v) (t : MRFieldList fs) : MRFieldList ((n, v) :: fs)

/-- the field loop reads a `;`-separated list of fields, in whatever order they come, into their slots
    (the fuel need only exceed what is left of the text: every field is at least one character) -/
theorem mrLoop_fields {s : Str} {fs : List (Str × Str)} (hf : MRFieldList fs) : ∀ {pos : Nat}, s.drop pos = joinSep [';'] (fs.map pair) →
    ∀ (acc : MRFields) {fuel : Nat}, s.length - pos < fuel →
    mrLoop s pos acc fuel = .ok (fs.foldl (fun a f => mrPut f.1 f.2 a) acc) := by
  induction hf with
  | nil => exact fun h acc fuel _ => mrLoop_end (List.drop_eq_nil_iff.1 h) acc fuel
  | @cons n v fs hf _ ih =>
    intro pos h acc fuel hfu
    have hjoin : joinSep [';'] (((n, v) :: fs).map pair) =
        pair (n, v) ++ (if fs = [] then [] else ';' :: joinSep [';'] (fs.map pair)) := by
      cases fs <;> simp [joinSep]
    rw [hjoin] at h
    have hpos : ¬ pos ≥ s.length := by cases hp : pair (n, v) with
      | nil => simp [pair] at hp
      | cons c p => exact lt_of_drop (hp ▸ h)
    obtain ⟨fuel, rfl⟩ : ∃ f, fuel = f + 1 := ⟨fuel - 1, by omega⟩
    rw [mrLoop_field hf h (by split <;> simp)]
    refine ih ?_ _ (by omega)
    have := drop_add h
    split at this
    · subst fs; rw [← List.drop_drop, this]; rfl
    · rw [← List.drop_drop, this]; rfl

theorem showMR_fields (r : MRRec) : showMR r = lit "MatchResult:" ++ joinSep [';'] (List.map pair
    [(lit "order_id", showId r.orderId), (lit "remaining_quantity", showNat r.remaining), (lit "is_complete", showBool r.complete),
     (lit "transactions", lit "Transactions:[" ++ (joinSep [','] (r.txs.map showTx) ++ [']'])),
     (lit "filled_order_ids", ['['] ++ (joinSep [','] (r.filled.map showId) ++ [']']))]) := by
  simp only [showMR, showTxList, List.map, pair, joinSep, lit, String.reduceToList, List.append_assoc, List.cons_append, List.nil_append]

/-- the two lists of a match result, once the field loop has cut them out -/
theorem finishMR_rt (id : Id) (rem : Nat) (c : Bool) (txs : List TxRec) (filled : List Id)
    (htx : parseTxList (showTxList txs) = .ok txs) (hfl : ∀ i ∈ filled, i.val < 2 ^ 128) :
    parseMR.finishMR id rem c (showTxList txs) ('[' :: (joinSep [','] (filled.map showId) ++ [']'])) =
      .ok ⟨id, txs, rem, c, filled⟩ := by
  have he := ids_elems filled
  simp only [parseMR.finishMR, htx]
  cases filled with
  | nil => simp [joinSep, show lit "[]" = ['[', ']'] by decide]
  | cons i rest =>
    have hb := he.join_ne_nil (by simp)
    have hcontent : (('[' :: (joinSep [','] (List.map showId (i :: rest)) ++ [']'])).drop 1).take
        (('[' :: (joinSep [','] (List.map showId (i :: rest)) ++ [']'])).length - 2) = joinSep [','] (List.map showId (i :: rest)) := by
      simp
    rw [if_neg (by cases hj : joinSep [','] (List.map showId (i :: rest)) <;> simp_all [show lit "[]" = ['[', ']'] by decide])]
    simp only [hcontent]
    rw [if_neg (by simpa using hb), he.splitOn_join (by simp), mapM_show showId parseId _ fun j hj => parseId_showId j (hfl j hj)]
    rfl


end PLV.Text
