/-
  Helper lemmas for C19 / C04 / C11: the hand-out order `liveOrder` of a ticket queue and how the queue
  operations act on it. Pushing orders whose ids have neither an entry nor a ticket appends them, to the
  queue (`foldl_push_eq`, `fromVec_eq`) and to its hand-out order (`liveOrder_append_fresh`).
-/
import PLV.Lemmas.OMap
import PLV.Judge

namespace PLV

theorem lookup_eq_find (id : Id) (l : List Order) : lookup id l = OMap.find l id := by
  induction l with
  | nil => rfl
  | cons x rest ih => simp [lookup, OMap.find, ih]

theorem liveOrder_mem {m : OMap} {ts : List Id} {x : Order} (h : x ∈ liveOrder m ts) : x ∈ m := by
  induction ts generalizing m with
  | nil => simp [liveOrder] at h
  | cons t rest ih =>
    unfold liveOrder at h
    split at h
    · rename_i o hf
      rcases List.mem_cons.1 h with rfl | h
      · exact (find_some hf).1
      · exact (mem_erase.1 (ih h)).1
    · exact ih h

theorem liveOrder_push_fresh (o : Order) (ts : List Id) :
    ∀ (m : OMap), o.id ∉ ts → liveOrder (m.insert o) (ts ++ [o.id]) = liveOrder m ts ++ [o] := by
  induction ts with
  | nil => intro m _; simp [liveOrder, find_insert_same]
  | cons t rest ih =>
    intro m ht
    simp at ht
    have hne : t ≠ o.id := fun e => ht.1 e.symm
    simp only [List.cons_append, liveOrder, find_insert_ne hne]
    cases hf : m.find t with
    | none => exact ih m ht.2
    | some x =>
      simp only
      rw [erase_insert_comm m o t hne, ih (m.erase t) ht.2]
      rfl

theorem liveOrder_append_fresh (os : List Order) : ∀ (m : OMap) (ts : List Id),
    (∀ x ∈ ids os, x ∉ ids m) → (∀ x ∈ ids os, x ∉ ts) → (ids os).Nodup →
    liveOrder (m ++ os) (ts ++ ids os) = liveOrder m ts ++ os := by
  induction os with
  | nil => intro m ts _ _ _; simp
  | cons o rest ih =>
    intro m ts hm ht hn
    rw [ids_cons, List.nodup_cons] at hn
    have := ih (m ++ [o]) (ts ++ [o.id]) (by rw [ids_append]; exact fresh_tail hm hn.1) (fresh_tail ht hn.1) hn.2
    rw [← insert_fresh (hm _ (by simp)), liveOrder_push_fresh o ts m (ht _ (by simp)),
      insert_fresh (hm _ (by simp))] at this
    simpa using this

theorem liveOrder_self (os : List Order) (hn : (ids os).Nodup) : liveOrder os (ids os) = os := by
  simpa [liveOrder] using liveOrder_append_fresh os [] [] (by simp) (by simp) hn

theorem removeAll_of_not_mem {id : Id} {l : List Order} (h : ∀ x ∈ l, x.id ≠ id) : Fifo.removeAll id l = l := by
  induction l with
  | nil => rfl
  | cons x rest ih =>
    have := h x (by simp)
    simp [Fifo.removeAll, this]; exact ih (fun y hy => h y (by simp [hy]))

theorem liveOrder_erase (id : Id) (ts : List Id) :
    ∀ (m : OMap), liveOrder (m.erase id) ts = Fifo.removeAll id (liveOrder m ts) := by
  induction ts with
  | nil => intro m; rfl
  | cons t rest ih =>
    intro m
    by_cases ht : t = id
    · subst ht
      simp only [liveOrder, find_erase_self]
      cases hf : m.find t with
      | none => simp only; exact ih m
      | some o =>
        simp only [Fifo.removeAll, (find_some hf).2, if_true]
        rw [← ih (m.erase t), erase_idem]
    · have hne : t ≠ id := ht
      simp only [liveOrder, find_erase_ne hne]
      cases hf : m.find t with
      | none => simp only; exact ih m
      | some o =>
        have : o.id ≠ id := by rw [(find_some hf).2]; exact hne
        simp only [Fifo.removeAll, this, if_false]
        rw [erase_comm, ih (m.erase t)]

theorem lookup_liveOrder (id : Id) (ts : List Id) :
    ∀ (m : OMap), lookup id (liveOrder m ts) = if id ∈ ts then m.find id else none := by
  induction ts with
  | nil => intro m; simp [liveOrder, lookup]
  | cons t rest ih =>
    intro m
    simp only [liveOrder]
    cases hf : m.find t with
    | none =>
      simp only
      rw [ih m]
      by_cases e : id = t
      · subst e; simp [hf]
      · simp [e]
    | some o =>
      have ho := (find_some hf).2
      simp only [lookup]
      by_cases e : id = t
      · subst e; simp [ho, hf]
      · have : o.id ≠ id := by rw [ho]; exact fun h => e h.symm
        simp only [this, if_false, List.mem_cons, e, false_or]
        rw [ih (m.erase t), find_erase_ne e]

theorem lookup_live {m : OMap} {ts : List Id} (hc : ∀ x ∈ ids m, x ∈ ts) (id : Id) :
    lookup id (liveOrder m ts) = m.find id := by
  rw [lookup_liveOrder]; split
  · rfl
  · rename_i h; exact (find_none.2 fun hx => h (hc _ hx)).symm

theorem liveOrder_perm (ts : List Id) :
    ∀ (m : OMap), (ids m).Nodup → (∀ x ∈ ids m, x ∈ ts) → (liveOrder m ts).Perm m := by
  induction ts with
  | nil =>
    intro m _ hc
    cases m with
    | nil => exact List.Perm.refl _
    | cons o rest => exact absurd (hc o.id (by simp)) (by simp)
  | cons t rest ih =>
    intro m hn hc
    simp only [liveOrder]
    cases hf : m.find t with
    | none =>
      simp only
      refine ih m hn (fun x hx => ?_)
      rcases List.mem_cons.1 (hc x hx) with rfl | h
      · exact absurd hx (find_none.1 hf)
      · exact h
    | some o =>
      simp only
      have := ih (m.erase t) (nodup_erase _ hn) (fun x hx => by
        have hm := mem_ids_erase.1 hx
        rcases List.mem_cons.1 (hc x hm.1) with rfl | h
        · exact absurd rfl hm.2
        · exact h)
      exact (this.cons o).trans (perm_cons_erase hn hf)

theorem liveOrder_pop {m : OMap} {ts : List Id} {o m' ts'} (h : popLive m ts = some (o, m', ts')) :
    liveOrder m ts = o :: liveOrder m' ts' := by
  induction ts with
  | nil => simp [popLive] at h
  | cons t rest ih =>
    unfold popLive at h
    cases hf : m.find t with
    | none => rw [hf] at h; simp only [liveOrder, hf]; exact ih h
    | some o' => rw [hf] at h; cases h; simp only [liveOrder, hf]

theorem liveOrder_pop_none {m : OMap} {ts : List Id} (h : popLive m ts = none) : liveOrder m ts = [] := by
  have hd := popLive_none h
  clear h
  induction ts with
  | nil => rfl
  | cons t rest ih =>
    simp only [liveOrder, find_none.2 (hd t (by simp))]
    exact ih fun x hx => hd x (by simp [hx])

theorem liveOrder_append_dead (t : Id) (ts : List Id) :
    ∀ (m : OMap), t ∉ ids m → liveOrder m (ts ++ [t]) = liveOrder m ts := by
  induction ts with
  | nil => intro m h; simp [liveOrder, find_none.2 h]
  | cons x rest ih =>
    intro m h
    simp only [List.cons_append, liveOrder]
    cases hf : m.find x with
    | none => exact ih m h
    | some o => simp only; rw [ih (m.erase x) (fun hm => h (mem_ids_erase.1 hm).1)]

/-- replace the entry for `new.id` in place; `C04_partial` states with it what a same-price amend does to the
    hand-out order -/
def replaceById (new : Order) : List Order → List Order
  | [] => []
  | x :: rest => (if x.id = new.id then new else x) :: replaceById new rest

theorem replaceById_of_not_mem {new : Order} {l : List Order} (h : ∀ x ∈ l, x.id ≠ new.id) :
    replaceById new l = l := by
  induction l with
  | nil => rfl
  | cons x rest ih =>
    have := h x (by simp)
    simp [replaceById, this]; exact ih (fun y hy => h y (by simp [hy]))

/-- a same-price amend (remove, re-insert under the same id, append a second ticket) keeps the
    order's place in the hand-out order: the old ticket still comes first -/
theorem liveOrder_amend (new : Order) (ts : List Id) :
    ∀ (m : OMap), new.id ∈ ts → new.id ∈ ids m →
      liveOrder ((m.erase new.id).insert new) (ts ++ [new.id]) = replaceById new (liveOrder m ts) := by
  induction ts with
  | nil => intro m h; simp at h
  | cons t rest ih =>
    intro m hts hm
    by_cases ht : t = new.id
    · subst ht
      obtain ⟨old, hf⟩ := exists_find hm
      simp only [List.cons_append, liveOrder, find_insert_same, hf, replaceById, (find_some hf).2, if_true]
      rw [erase_insert_same, erase_idem,
        liveOrder_append_dead _ _ _ (not_mem_ids_erase _ _)]
      rw [replaceById_of_not_mem]
      intro x hx e
      exact (mem_erase.1 (liveOrder_mem hx)).2 e
    · have hne : t ≠ new.id := ht
      have hts' : new.id ∈ rest := by
        rcases List.mem_cons.1 hts with e | h
        · exact absurd e.symm ht
        · exact h
      simp only [List.cons_append, liveOrder, find_insert_ne hne, find_erase_ne hne]
      cases hf : m.find t with
      | none => simp only; exact ih m hts' hm
      | some x =>
        have hx : x.id ≠ new.id := by rw [(find_some hf).2]; exact hne
        simp only [replaceById, hx, if_false]
        rw [erase_insert_comm _ _ _ hne, erase_comm,
          ih (m.erase t) hts' (mem_ids_erase.2 ⟨hm, fun e => hne e.symm⟩)]

theorem foldl_push_requeue (os : List Order) : ∀ (q : Q),
    os.foldl Q.push q = ⟨(requeueAside q.map q.tickets os).1, (requeueAside q.map q.tickets os).2⟩ := by
  induction os with
  | nil => intro q; rfl
  | cons o rest ih => intro q; rw [List.foldl_cons, ih]; rfl

theorem foldl_push_eq (os : List Order) (q : Q) (hd : ∀ x ∈ ids os, x ∉ ids q.map) (hn : (ids os).Nodup) :
    os.foldl Q.push q = ⟨q.map ++ os, q.tickets ++ ids os⟩ := by
  rw [foldl_push_requeue, requeueAside_eq os _ _ hd hn]

theorem fromVec_tickets (os : List Order) : (Q.fromVec os).tickets = ids os := by
  rw [Q.fromVec, foldl_push_requeue, requeueAside_tickets]; rfl

theorem fromVec_eq (os : List Order) (hn : (ids os).Nodup) : Q.fromVec os = ⟨os, ids os⟩ := by
  simpa [Q.fromVec] using foldl_push_eq os {} (by simp) hn

theorem Q.remove_eq (q : Q) (id : Id) : q.remove id = (q.map.find id, { q with map := q.map.erase id }) := by
  unfold Q.remove
  cases hf : q.map.find id with
  | none => rw [erase_of_not_mem (find_none.1 hf)]
  | some o => rfl

theorem ids_liveOrder (m : OMap) : ∀ (ts : List Id), ts.Nodup →
    ts.filter (fun id => (m.find id).isSome) = ids (liveOrder m ts) := by
  intro ts
  induction ts generalizing m with
  | nil => intro _; rfl
  | cons t r ih =>
    intro hn
    have hnr : r.Nodup := (List.nodup_cons.1 hn).2
    have htr : t ∉ r := (List.nodup_cons.1 hn).1
    cases hf : m.find t with
    | none =>
      rw [List.filter_cons_of_neg (by simp [hf])]
      simp only [liveOrder, hf]
      exact ih m hnr
    | some o =>
      rw [List.filter_cons_of_pos (by simp [hf])]
      simp only [liveOrder, hf, ids, List.map_cons]
      rw [(find_some hf).2]
      congr 1
      rw [← ids, ← ih (m.erase t) hnr]
      apply List.filter_congr
      intro x hx
      have hne : x ≠ t := fun e => htr (e ▸ hx)
      rw [find_erase_ne hne]

end PLV
