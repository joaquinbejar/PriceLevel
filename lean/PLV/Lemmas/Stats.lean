/-
  Helper lemmas for C15: the statistics counters follow the events, over the loop of `match_order`
  and over histories.
-/
import PLV.Lemmas.LevelInv

namespace PLV

/-- the statistics during a call that started from `s0`: the two event counters untouched, quantity and
    value following the transactions so far (mod 2^64); every order at the level's price, which is what
    makes `value` = price × quantity -/
structure StatsInv (price : Nat) (s0 : Stats) (m : OMap) (a : Acc) : Prop where
  prices : ∀ x ∈ m, x.price = price
  asidePrices : ∀ x ∈ a.aside, x.price = price
  added : a.stats.added = s0.added
  removed : a.stats.removed = s0.removed
  qty : a.stats.qty = (s0.qty + sumQty a.txs) % W
  value : a.stats.value = (s0.value + price * sumQty a.txs) % W

theorem StatsInv.visit {price s0 m m' a a'} (hi : StatsInv price s0 m a) (t : Id) {o : Order} (rem : Nat)
    (hom : o ∈ m) (hst : a'.stats = (a.visit price t o (matchAgainst o rem)).stats)
    (htx : a'.txs = (a.visit price t o (matchAgainst o rem)).txs) (hp : ∀ x ∈ m', x.price = price)
    (ha : ∀ x ∈ a'.aside, x.price = price) : StatsInv price s0 m' a' := by
  refine ⟨hp, ha, ?_, ?_, ?_, ?_⟩ <;> rw [hst, visit_stats]
  · exact hi.added
  · exact hi.removed
  · rw [htx, sumQty_visit]
    simp only [Stats.recordExec, wadd, hi.qty]
    rw [Nat.mod_add_mod]; congr 1; omega
  · rw [htx, sumQty_visit]
    simp only [Stats.recordExec, wadd, hi.value, hi.prices o hom]
    rw [Nat.add_mod_mod, Nat.mod_add_mod]; congr 1
    rw [Nat.mul_add, Nat.mul_comm (matchAgainst o rem).consumed price]; omega

theorem matchLoop_stats (price : Nat) (taker : Id) (s0 : Stats) (rem : Nat) (m : OMap) (ts : List Id)
    (a : Acc) (h : StatsInv price s0 m a) :
    let res := matchLoop price taker rem m ts a
    StatsInv price s0 res.2.1 res.2.2.2 := by
  refine matchLoop_ind price taker (fun _ m _ a => StatsInv price s0 m a) ?_ ?_ ?_ ?_ rem m ts a h
  · intro rem m ts a _ _ h; exact h
  · intro rem m ts a o m' ts' u _ hp hu hs hi
    obtain ⟨hf, rfl⟩ := popLive_spec hp
    obtain rfl := ma_aside_eq hu hs
    have hom := (find_some hf).1
    refine hi.visit taker rem hom rfl rfl (fun x hx => hi.prices x (mem_erase.1 hx).1) fun x hx => ?_
    simp at hx
    exact hx.elim (hi.asidePrices x) fun e => e ▸ hi.prices u hom
  · intro rem m ts a o m' ts' u _ hp hu _ hi
    obtain ⟨hf, rfl⟩ := popLive_spec hp
    have hom := (find_some hf).1
    refine hi.visit taker rem hom (by simp) (by simp) (fun x hx => ?_) (by simpa using hi.asidePrices)
    rcases mem_insert.1 hx with hx | rfl
    · exact hi.prices x (mem_erase.1 hx.1).1
    · rw [(ma_stay_fields hu).2.1]; exact hi.prices o hom
  · intro rem m ts a o m' ts' _ hp hu hi
    obtain ⟨hf, rfl⟩ := popLive_spec hp
    exact hi.visit taker rem (find_some hf).1 (by simp) (by simp) (fun x hx => hi.prices x (mem_erase.1 hx).1)
      (by simpa using hi.asidePrices)

/-- every order of the level carries the level's price (what an order book guarantees) -/
def Level.PriceOk (l : Level) : Prop := ∀ x ∈ l.map, x.price = l.price

/-- the events of one operation as an observer counts them from the call's result -/
structure Events where
  adds    : Nat := 0
  removed : Nat := 0
  exec    : Nat := 0
  deriving Repr

def eventsOfStep (price : Nat) (op : Op) (out : Out) : Events :=
  match op, out with
  | .add _, _ => { adds := 1 }
  | .matchQ _ _, .matched r => { exec := sumQty r.txs }
  | .update u, .updated (.ok (some _)) => if u.isRemoval price then { removed := 1 } else {}
  | _, _ => {}

def eventsOver (s : Sys) : List Op → Events
  | [] => {}
  | op :: rest =>
    let e := eventsOfStep s.lvl.price op (s.step op).2
    let e' := eventsOver (s.step op).1 rest
    { adds := e.adds + e'.adds, removed := e.removed + e'.removed, exec := e.exec + e'.exec }

/-- admissibility for C15: additionally every added order carries the level's price -/
def AdmP (l : Level) (op : Op) : Prop :=
  Adm l op ∧ (match op with | .add o => o.price = l.price | _ => True)

def AdmAllP (s : Sys) : List Op → Prop
  | [] => True
  | op :: rest => AdmP s.lvl op ∧ AdmAllP (s.step op).1 rest

/-- the four counters after a step, modulo 2^64 -/
structure StatsFollow (price : Nat) (s0 s1 : Stats) (e : Events) : Prop where
  added : s1.added = (s0.added + e.adds) % W
  removed : s1.removed = (s0.removed + e.removed) % W
  qty : s1.qty = (s0.qty + e.exec) % W
  value : s1.value = (s0.value + price * e.exec) % W

/-- the four counters are 64-bit values (`a`dded, `r`emoved, `q`ty, `v`alue) -/
structure StatsOk (s : Stats) : Prop where
  a : s.added < W
  r : s.removed < W
  q : s.qty < W
  v : s.value < W

theorem StatsFollow.ok {p : Nat} {s0 s1 : Stats} {e : Events} (h : StatsFollow p s0 s1 e) : StatsOk s1 :=
  ⟨h.added ▸ mod_W_lt _, h.removed ▸ mod_W_lt _, h.qty ▸ mod_W_lt _, h.value ▸ mod_W_lt _⟩

theorem StatsFollow.same {p : Nat} {s : Stats} (hok : StatsOk s) : StatsFollow p s s {} :=
  ⟨by simp [Nat.mod_eq_of_lt hok.a], by simp [Nat.mod_eq_of_lt hok.r], by simp [Nat.mod_eq_of_lt hok.q],
    by simp [Nat.mod_eq_of_lt hok.v]⟩

theorem StatsFollow.trans {p : Nat} {s0 s1 s2 : Stats} {e e' : Events} (h : StatsFollow p s0 s1 e)
    (h' : StatsFollow p s1 s2 e') :
    StatsFollow p s0 s2 { adds := e.adds + e'.adds, removed := e.removed + e'.removed, exec := e.exec + e'.exec } := by
  refine ⟨?_, ?_, ?_, ?_⟩
  · rw [h'.added, h.added, Nat.mod_add_mod, Nat.add_assoc]
  · rw [h'.removed, h.removed, Nat.mod_add_mod, Nat.add_assoc]
  · rw [h'.qty, h.qty, Nat.mod_add_mod, Nat.add_assoc]
  · rw [h'.value, h.value, Nat.mod_add_mod, Nat.mul_add, Nat.add_assoc]

theorem Level.finishMatch_stats (l : Level) (t : Id) (res : Nat × OMap × List Id × Acc) (s0 : Stats)
    (hok : StatsOk s0) (hi : StatsInv l.price s0 res.2.1 res.2.2.2) :
    (l.finishMatch t res).1.PriceOk ∧ (l.finishMatch t res).1.price = l.price ∧
      StatsFollow l.price s0 (l.finishMatch t res).1.stats { exec := sumQty (l.finishMatch t res).2.1.txs } := by
  simp only [Level.finishMatch]
  refine ⟨fun x hx => (requeueAside_mem _ _ _ x hx).elim (hi.prices x) (hi.asidePrices x), trivial, ?_⟩
  exact ⟨by simp [hi.added, Nat.mod_eq_of_lt hok.a], by simp [hi.removed, Nat.mod_eq_of_lt hok.r],
    by simp [hi.qty], by simp [hi.value]⟩

theorem Level.removeOrder_stats {l : Level} (hp : l.PriceOk) (hok : StatsOk l.stats) (id : Id) :
    (l.removeOrder id).1.PriceOk ∧ (l.removeOrder id).1.price = l.price ∧
      StatsFollow l.price l.stats (l.removeOrder id).1.stats
        (match (l.removeOrder id).2 with | .ok (some _) => { removed := 1 } | _ => {}) := by
  cases hf : l.map.find id with
  | none => rw [Level.removeOrder_none hf]; exact ⟨hp, rfl, .same hok⟩
  | some o =>
    rw [Level.removeOrder_eq hf]
    refine ⟨fun x hx => hp x (mem_erase.1 hx).1, rfl, ?_⟩
    exact ⟨by simp [Nat.mod_eq_of_lt hok.a], rfl, by simp [Nat.mod_eq_of_lt hok.q], by simp [Nat.mod_eq_of_lt hok.v]⟩

theorem Level.amend_stats {l : Level} (hp : l.PriceOk) (id : Id) (n : Nat) :
    (l.amend id n).1.PriceOk ∧ (l.amend id n).1.price = l.price ∧ (l.amend id n).1.stats = l.stats := by
  cases hf : l.map.find id with
  | none => rw [Level.amend_none hf]; exact ⟨hp, rfl, rfl⟩
  | some old =>
    rw [Level.amend_eq hf]
    refine ⟨fun x hx => ?_, rfl, rfl⟩
    rcases mem_insert.1 hx with hx | rfl
    · exact hp x (mem_erase.1 hx.1).1
    · rw [withReduced_price]; exact hp old (find_some hf).1

theorem Sys.step_stats {s : Sys} (hp : s.lvl.PriceOk) (hok : StatsOk s.lvl.stats) (op : Op)
    (ha : AdmP s.lvl op) :
    (s.step op).1.lvl.PriceOk ∧ (s.step op).1.lvl.price = s.lvl.price ∧ StatsOk (s.step op).1.lvl.stats ∧
      StatsFollow s.lvl.price s.lvl.stats (s.step op).1.lvl.stats (eventsOfStep s.lvl.price op (s.step op).2) := by
  suffices h : (s.step op).1.lvl.PriceOk ∧ (s.step op).1.lvl.price = s.lvl.price ∧
      StatsFollow s.lvl.price s.lvl.stats (s.step op).1.lvl.stats (eventsOfStep s.lvl.price op (s.step op).2) from
    ⟨h.1, h.2.1, h.2.2.ok, h.2.2⟩
  cases op with
  | add o =>
    refine ⟨fun x hx => ?_, rfl, rfl, ?_, ?_, ?_⟩
    · rcases mem_insert.1 hx with hx | rfl
      · exact hp x hx.1
      · exact ha.2
    all_goals simp [Sys.step, Level.addOrder, eventsOfStep, Nat.mod_eq_of_lt, hok.r, hok.q, hok.v]
  | matchQ q t =>
    have h0 : StatsInv s.lvl.price s.lvl.stats s.lvl.map
        { vis := s.lvl.vis, hid := s.lvl.hid, cnt := s.lvl.cnt, stats := s.lvl.stats, g := s.g } :=
      ⟨hp, by simp, rfl, rfl, by simp [sumQty, Nat.mod_eq_of_lt hok.q], by simp [sumQty, Nat.mod_eq_of_lt hok.v]⟩
    exact Level.finishMatch_stats s.lvl t _ s.lvl.stats hok
      (matchLoop_stats s.lvl.price t s.lvl.stats q s.lvl.map s.lvl.tickets _ h0)
  | read => exact ⟨hp, rfl, .same hok⟩
  | update u =>
    simp only [Sys.step]
    rw [s.lvl.update_eq]
    split
    · rename_i hr
      obtain ⟨h1, h2, h3⟩ := s.lvl.removeOrder_stats hp hok u.target
      refine ⟨h1, h2, ?_⟩
      rcases hout : (s.lvl.removeOrder u.target).2 with (_ | o) | _ <;> simpa [eventsOfStep, hout, hr] using h3
    · rename_i hr
      split
      · rename_i n _
        obtain ⟨h1, h2, h3⟩ := s.lvl.amend_stats hp u.target n
        refine ⟨h1, h2, ?_⟩
        rw [h3]
        rcases (s.lvl.amend u.target n).2 with (_ | o) | _ <;> simpa [eventsOfStep, hr] using StatsFollow.same hok
      · exact ⟨hp, rfl, by simpa [eventsOfStep] using StatsFollow.same hok⟩

end PLV
