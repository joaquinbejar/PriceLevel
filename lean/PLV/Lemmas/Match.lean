/-
  Helper lemmas about one maker visit (what it does to the accumulator) and an induction principle for the
  loop of `match_order` (its defining equations stand next to the definition, in Model/Level.lean).
-/
import PLV.Model.Level

namespace PLV

@[simp] theorem visit_hid (a : Acc) (p : Nat) (t : Id) (o : Order) (r : MatchOut) :
    (a.visit p t o r).hid = a.hid := by
  unfold Acc.visit; split <;> rfl
@[simp] theorem visit_cnt (a : Acc) (p : Nat) (t : Id) (o : Order) (r : MatchOut) :
    (a.visit p t o r).cnt = a.cnt := by
  unfold Acc.visit; split <;> rfl
@[simp] theorem visit_aside (a : Acc) (p : Nat) (t : Id) (o : Order) (r : MatchOut) :
    (a.visit p t o r).aside = a.aside := by
  unfold Acc.visit; split <;> rfl

theorem visit_stats (a : Acc) (p : Nat) (t : Id) (o : Order) (r : MatchOut) :
    (a.visit p t o r).stats = a.stats.recordExec r.consumed o.price := by
  unfold Acc.visit; split <;> rfl

theorem visit_vis (a : Acc) (p : Nat) (t : Id) (o : Order) (r : MatchOut)
    (hc : r.consumed ≤ a.vis) (hw : a.vis < W) : (a.visit p t o r).vis + r.consumed = a.vis := by
  unfold Acc.visit
  split
  · simp only [wsub_eq hc hw]; omega
  · simp only; omega

theorem visit_txs (a : Acc) (p : Nat) (t : Id) (o : Order) (r : MatchOut) :
    (a.visit p t o r).txs =
      if r.consumed > 0 then a.txs ++ [⟨a.g, t, o.id, p, r.consumed, o.side.opposite⟩] else a.txs := by
  unfold Acc.visit; split <;> rfl

theorem visit_g (a : Acc) (p : Nat) (t : Id) (o : Order) (r : MatchOut) :
    (a.visit p t o r).g = if r.consumed > 0 then wadd a.g 1 else a.g := by
  unfold Acc.visit; split <;> rfl

theorem visit_filled (a : Acc) (p : Nat) (t : Id) (o : Order) (r : MatchOut) :
    (a.visit p t o r).filled =
      if r.consumed > 0 ∧ r.updated = none then a.filled ++ [o.id] else a.filled := by
  unfold Acc.visit
  split
  · cases r.updated <;> simp_all
  · simp_all

theorem sumQty_append (a b : List Tx) : sumQty (a ++ b) = sumQty a + sumQty b := by
  induction a with
  | nil => simp [sumQty]
  | cons x rest ih => simp [sumQty, ih]; omega

theorem sumQty_visit (a : Acc) (p : Nat) (t : Id) (o : Order) (r : MatchOut) :
    sumQty (a.visit p t o r).txs = sumQty a.txs + r.consumed := by
  rw [visit_txs]; split
  · simp [sumQty_append, sumQty]
  · omega

/-- a visit that consumes nothing only ticks the execution counter -/
theorem visit_idle (a : Acc) (p : Nat) (t : Id) (o : Order) (r : MatchOut) (h : r.consumed = 0) :
    a.visit p t o r = { a with stats := a.stats.recordExec 0 o.price } := by
  simp [Acc.visit, h]

@[simp] theorem pushAside_vis (a : Acc) (u : Order) : (a.pushAside u).vis = a.vis := rfl
@[simp] theorem pushAside_hid (a : Acc) (u : Order) : (a.pushAside u).hid = a.hid := rfl
@[simp] theorem pushAside_cnt (a : Acc) (u : Order) : (a.pushAside u).cnt = a.cnt := rfl
@[simp] theorem pushAside_aside (a : Acc) (u : Order) : (a.pushAside u).aside = a.aside ++ [u] := rfl
@[simp] theorem pushAside_txs (a : Acc) (u : Order) : (a.pushAside u).txs = a.txs := rfl
@[simp] theorem pushAside_g (a : Acc) (u : Order) : (a.pushAside u).g = a.g := rfl
@[simp] theorem pushAside_filled (a : Acc) (u : Order) : (a.pushAside u).filled = a.filled := rfl
@[simp] theorem pushAside_stats (a : Acc) (u : Order) : (a.pushAside u).stats = a.stats := rfl

@[simp] theorem requeue_cnt (a : Acc) (hr : Nat) : (a.requeue hr).cnt = a.cnt := by
  unfold Acc.requeue; split <;> rfl
@[simp] theorem requeue_aside (a : Acc) (hr : Nat) : (a.requeue hr).aside = a.aside := by
  unfold Acc.requeue; split <;> rfl
@[simp] theorem requeue_txs (a : Acc) (hr : Nat) : (a.requeue hr).txs = a.txs := by
  unfold Acc.requeue; split <;> rfl
@[simp] theorem requeue_g (a : Acc) (hr : Nat) : (a.requeue hr).g = a.g := by
  unfold Acc.requeue; split <;> rfl
@[simp] theorem requeue_filled (a : Acc) (hr : Nat) : (a.requeue hr).filled = a.filled := by
  unfold Acc.requeue; split <;> rfl
@[simp] theorem requeue_stats (a : Acc) (hr : Nat) : (a.requeue hr).stats = a.stats := by
  unfold Acc.requeue; split <;> rfl

theorem requeue_vis_hid (a : Acc) (hr : Nat) (hh : hr ≤ a.hid) (hw : a.hid < W) (hv : a.vis + hr < W) :
    (a.requeue hr).vis = a.vis + hr ∧ (a.requeue hr).hid = a.hid - hr := by
  unfold Acc.requeue
  split
  · simp [wsub_eq hh hw, wadd_eq hv]
  · simp; omega

@[simp] theorem leave_vis (a : Acc) (o : Order) (hr : Nat) : (a.leave o hr).vis = a.vis := rfl
@[simp] theorem leave_aside (a : Acc) (o : Order) (hr : Nat) : (a.leave o hr).aside = a.aside := rfl
@[simp] theorem leave_txs (a : Acc) (o : Order) (hr : Nat) : (a.leave o hr).txs = a.txs := rfl
@[simp] theorem leave_g (a : Acc) (o : Order) (hr : Nat) : (a.leave o hr).g = a.g := rfl
@[simp] theorem leave_filled (a : Acc) (o : Order) (hr : Nat) : (a.leave o hr).filled = a.filled := rfl
@[simp] theorem leave_stats (a : Acc) (o : Order) (hr : Nat) : (a.leave o hr).stats = a.stats := rfl

theorem leave_cnt_hid (a : Acc) (o : Order) (hc : 1 ≤ a.cnt) (hcw : a.cnt < W) (hh : o.hid ≤ a.hid)
    (hw : a.hid < W) : (a.leave o 0).cnt = a.cnt - 1 ∧ (a.leave o 0).hid = a.hid - o.hid := by
  unfold Acc.leave
  refine ⟨by simp [wsub_eq hc hcw], ?_⟩
  by_cases hk : o.kind.hasHidden = true
  · by_cases h0 : o.hid > 0
    · simp [hk, h0, wsub_eq hh hw]
    · simp [hk, h0]; omega
  · have := hid_of_plain o (by simpa using hk)
    simp [hk]; omega

/-! nothing in a visit reads the statistics -/

theorem visit_with_stats (a : Acc) (s' : Stats) (p : Nat) (t : Id) (o : Order) (r : MatchOut) :
    ({ a with stats := s' } : Acc).visit p t o r = { a.visit p t o r with stats := s'.recordExec r.consumed o.price } := by
  by_cases h : r.consumed > 0 <;> simp [Acc.visit, h]

theorem requeue_with_stats (a : Acc) (s' : Stats) (hr : Nat) :
    ({ a with stats := s' } : Acc).requeue hr = { a.requeue hr with stats := s' } := by
  by_cases h : hr > 0 <;> simp [Acc.requeue, h]

theorem pushAside_with_stats (a : Acc) (s' : Stats) (u : Order) :
    ({ a with stats := s' } : Acc).pushAside u = { a.pushAside u with stats := s' } := rfl

theorem leave_with_stats (a : Acc) (s' : Stats) (o : Order) (hr : Nat) :
    ({ a with stats := s' } : Acc).leave o hr = { a.leave o hr with stats := s' } := rfl

/-- To show that `P` holds of the loop's final state it is enough that `P` holds initially and is
    preserved by: running out of tickets, setting an order aside, re-queueing a partially filled or
    replenished order, and an order leaving the book. -/
theorem matchLoop_ind (price : Nat) (taker : Id) (P : Nat → OMap → List Id → Acc → Prop)
    (hnone : ∀ rem m ts a, rem ≠ 0 → popLive m ts = none → P rem m ts a → P rem m [] a)
    (haside : ∀ rem m ts a o m' ts' u, rem ≠ 0 → popLive m ts = some (o, m', ts') →
      (matchAgainst o rem).updated = some u →
      ((matchAgainst o rem).consumed = 0 ∧ (matchAgainst o rem).hiddenRed = 0) → P rem m ts a →
      P (matchAgainst o rem).remaining m' ts'
        ((a.visit price taker o (matchAgainst o rem)).pushAside u))
    (hrequeue : ∀ rem m ts a o m' ts' u, rem ≠ 0 → popLive m ts = some (o, m', ts') →
      (matchAgainst o rem).updated = some u →
      ¬ ((matchAgainst o rem).consumed = 0 ∧ (matchAgainst o rem).hiddenRed = 0) → P rem m ts a →
      P (matchAgainst o rem).remaining (m'.insert u) (ts' ++ [u.id])
        ((a.visit price taker o (matchAgainst o rem)).requeue (matchAgainst o rem).hiddenRed))
    (hleave : ∀ rem m ts a o m' ts', rem ≠ 0 → popLive m ts = some (o, m', ts') →
      (matchAgainst o rem).updated = none → P rem m ts a →
      P (matchAgainst o rem).remaining m' ts'
        ((a.visit price taker o (matchAgainst o rem)).leave o (matchAgainst o rem).hiddenRed))
    (rem : Nat) (m : OMap) (ts : List Id) (a : Acc) (h : P rem m ts a) :
    P (matchLoop price taker rem m ts a).1 (matchLoop price taker rem m ts a).2.1
      (matchLoop price taker rem m ts a).2.2.1 (matchLoop price taker rem m ts a).2.2.2 := by
  fun_induction matchLoop price taker rem m ts a with
  | case1 => exact h
  | case2 rem m ts a hz hp => exact hnone _ _ _ _ hz hp h
  | case3 rem m ts a hz o m' ts' hp r a2 u hu hs ih => exact ih (haside _ _ _ _ _ _ _ _ hz hp hu hs h)
  | case4 rem m ts a hz o m' ts' hp r a2 u hu hs ih => exact ih (hrequeue _ _ _ _ _ _ _ _ hz hp hu hs h)
  | case5 rem m ts a hz o m' ts' hp r a2 hu ih => exact ih (hleave _ _ _ _ _ _ _ hz hp hu h)

/-- the loop stops only when the request or the tickets are exhausted (a fact about its result, not an
    invariant, so `matchLoop_ind` does not apply) -/
theorem matchLoop_stop (price : Nat) (taker : Id) (rem : Nat) (m : OMap) (ts : List Id) (a : Acc) :
    (matchLoop price taker rem m ts a).1 = 0 ∨ (matchLoop price taker rem m ts a).2.2.1 = [] := by
  fun_induction matchLoop price taker rem m ts a with
  | case1 => exact Or.inl rfl
  | case2 => exact Or.inr rfl
  | case3 _ _ _ _ _ _ _ _ _ _ _ _ _ _ ih => exact ih
  | case4 _ _ _ _ _ _ _ _ _ _ _ _ _ _ ih => exact ih
  | case5 _ _ _ _ _ _ _ _ _ _ _ _ ih => exact ih

/-- the statistics never influence a match: the same loop from other statistics ends with the same remainder, map,
    tickets and accumulator, but for the statistics -/
theorem loop_stats_irrel (price : Nat) (taker : Id) (rem : Nat) (m : OMap) (ts : List Id) (a : Acc) :
    ∀ (s' : Stats), ∃ s'',
      matchLoop price taker rem m ts { a with stats := s' } =
        ((matchLoop price taker rem m ts a).1, (matchLoop price taker rem m ts a).2.1, (matchLoop price taker rem m ts a).2.2.1,
          { (matchLoop price taker rem m ts a).2.2.2 with stats := s'' }) := by
  fun_induction matchLoop price taker rem m ts a with
  | case1 m ts a => exact fun s' => ⟨s', matchLoop_zero ..⟩
  | case2 rem m ts a hz hp => exact fun s' => ⟨s', matchLoop_none _ _ _ _ _ _ hz hp⟩
  | case3 rem m ts a hz o m' ts' hp r a2 u hu hs ih =>
    intro s'
    obtain ⟨s'', h⟩ := ih (s'.recordExec (matchAgainst o rem).consumed o.price)
    refine ⟨s'', ?_⟩
    rw [matchLoop_some _ _ _ _ _ _ hz hp, show (matchAgainst o rem).updated = some u from hu]
    simp only [if_pos (show (matchAgainst o rem).consumed = 0 ∧ (matchAgainst o rem).hiddenRed = 0 from hs),
      visit_with_stats, pushAside_with_stats]
    exact h
  | case4 rem m ts a hz o m' ts' hp r a2 u hu hs ih =>
    intro s'
    obtain ⟨s'', h⟩ := ih (s'.recordExec (matchAgainst o rem).consumed o.price)
    refine ⟨s'', ?_⟩
    rw [matchLoop_some _ _ _ _ _ _ hz hp, show (matchAgainst o rem).updated = some u from hu]
    simp only [if_neg (show ¬ ((matchAgainst o rem).consumed = 0 ∧ (matchAgainst o rem).hiddenRed = 0) from hs),
      visit_with_stats, requeue_with_stats]
    exact h
  | case5 rem m ts a hz o m' ts' hp r a2 hu ih =>
    intro s'
    obtain ⟨s'', h⟩ := ih (s'.recordExec (matchAgainst o rem).consumed o.price)
    refine ⟨s'', ?_⟩
    rw [matchLoop_some _ _ _ _ _ _ hz hp, show (matchAgainst o rem).updated = none from hu]
    simp only [visit_with_stats, leave_with_stats]
    exact h

end PLV
