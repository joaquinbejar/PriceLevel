/-
  Truncated JSON documents (for C09's "every proper prefix of the text is an error"):
  more fuel never changes an answer of the reader; on a printed clean tree the reader, whatever its
  fuel, answers that tree or nothing; a proper prefix of a printed clean value is rejected, except
  that a cut number may be read as a shorter number with nothing left over; so a proper prefix of
  a printed clean *object* is never a document.
-/
import PLV.Lemmas.JsonRT

namespace PLV.J
open PLV PLV.Text

theorem prefix_append' {p a b : Str} (h : p <+: a ++ b) : p <+: a ∨ ∃ q, p = a ++ q ∧ q <+: b := by
  rcases List.prefix_or_prefix_of_prefix h (List.prefix_append a b) with h1 | ⟨q, rfl⟩
  · exact Or.inl h1
  · exact Or.inr ⟨q, rfl, (List.prefix_append_right_inj a).1 h⟩

theorem litAt_prefix (w q : Str) (h : q <+: w) (hne : q ≠ w) : litAt w q = none := by
  rw [litAt, if_neg]
  intro e
  rw [List.take_of_length_le (List.IsPrefix.length_le h)] at e
  exact hne e

theorem trunc_word {c : Char} {w : Str} {g : Str → Json × Str}
    (hd : ∀ f r, readValue (f + 1) (c :: r) = (litAt w r).map g) {p : Str} (hp : p <+: c :: w) (hne : p ≠ c :: w)
    (f : Nat) : readValue f p = none := by
  rcases List.prefix_cons_iff.1 hp with rfl | ⟨q, rfl, hq⟩
  · exact readValue_nil f
  · cases f with
    | zero => simp [readValue]
    | succ f => rw [hd, litAt_prefix w q hq (fun e => hne (by rw [e]))]; rfl

theorem optionMap_mono {α β : Type} {o o' : Option α} {g : α → β} {x : β} (h : ∀ y, o = some y → o' = some y)
    (hx : o.map g = some x) : o'.map g = some x := by
  cases o with
  | none => simp at hx
  | some y => rw [h y rfl]; exact hx

theorem readers_mono (f : Nat) :
    (∀ s x, readValue f s = some x → readValue (f + 1) s = some x) ∧
    (∀ s acc x, readElems f s acc = some x → readElems (f + 1) s acc = some x) ∧
    (∀ s acc x, readMembers f s acc = some x → readMembers (f + 1) s acc = some x) := by
  induction f with
  | zero => exact ⟨fun _ _ h => (nomatch h), fun _ _ _ h => (nomatch h), fun _ _ _ h => (nomatch h)⟩
  | succ f ih =>
    obtain ⟨iv, ie, im⟩ := ih
    refine ⟨fun s x h => ?_, fun s acc x h => ?_, fun s acc x h => ?_⟩
    · rw [readValue] at h ⊢
      cases hs : skipWs s with
      | nil => simp [hs] at h
      | cons c rest =>
        simp only [hs] at h ⊢
        by_cases h2 : c = '['
        · -- with `h` reverted, `split` takes the reader at both fuels through the same branch
          subst h2; revert h
          simp (config := {decide := true}) only [if_false, if_true]
          split
          · exact id
          · exact optionMap_mono (ie _ _)
        · by_cases h3 : c = '{'
          · subst h3; revert h
            simp (config := {decide := true}) only [if_false, if_true]
            split
            · exact id
            · exact optionMap_mono (im _ _)
          · simp only [if_neg h2, if_neg h3] at h ⊢; exact h
    · rw [readElems] at h ⊢
      cases hv : readValue f s with
      | none => simp [hv] at h
      | some y =>
        rw [hv] at h; rw [iv s y hv]
        revert h
        dsimp only
        -- after the element: `,` (the only branch that reads on), `]`, anything else
        split
        · exact ie _ _ _
        · exact id
        · exact id
    · rw [readMembers] at h ⊢
      revert h
      -- the splits follow the reader: an opening `"`?, a key?, a `:`?, a value?, then `,` / `}` / anything else;
      -- fuel matters only where a value is read (`iv`) and where the reader goes on after a comma (`im`)
      split
      · split
        · exact id
        · split
          · cases hv : readValue f _ with
            | none => intro h; simp at h
            | some y =>
              rw [iv _ y hv]
              dsimp only
              split
              · exact im _ _ _
              · exact id
              · exact id
          · exact id
      · exact id

theorem rv_mono (f : Nat) (s : Str) (x : Json × Str) : readValue f s = some x → readValue (f + 1) s = some x :=
  (readers_mono f).1 s x

theorem rv_mono_add (f : Nat) (s : Str) (x : Json × Str) (h : readValue f s = some x) : ∀ n, readValue (f + n) s = some x
  | 0 => h
  | n + 1 => rv_mono (f + n) s x (rv_mono_add f s x h n)

theorem re_mono : ∀ (f : Nat) (s : Str) (acc : List Json) (x : List Json × Str),
    readElems f s acc = some x → readElems (f + 1) s acc = some x :=
  fun f => (readers_mono f).2.1

theorem rm_mono : ∀ (f : Nat) (s : Str) (acc : List (Str × Json)) (x : List (Str × Json) × Str),
    readMembers f s acc = some x → readMembers (f + 1) s acc = some x :=
  fun f => (readers_mono f).2.2

theorem readValue_det (j : Json) (hc : clean j = true) (rest : Str) (hr : Stop rest) (f : Nat) :
    readValue f (render j ++ rest) = none ∨ readValue f (render j ++ rest) = some (j, rest) := by
  cases h : readValue f (render j ++ rest) with
  | none => exact Or.inl rfl
  | some x =>
    exact Or.inr ((rv_mono_add f _ x h (need j)).symm.trans (readValue_render j hc rest hr (f + need j) (by omega)))

theorem cleanStr_prefix {q s : Str} (h : q <+: s) (hs : cleanStr s = true) : cleanStr q = true :=
  List.all_eq_true.2 fun c hc => List.all_eq_true.1 hs c (List.IsPrefix.mem hc h)

theorem readString_trunc (q : Str) (hq : cleanStr q = true) (acc : Str) : readString acc q = none := by
  have := readString_append q hq acc []
  rw [List.append_nil] at this
  rw [this, readString.eq_def]

/-- what the reader may answer on a truncated value: nothing, or a value with nothing left over -/
def TruncRes (o : Option (Json × Str)) : Prop := o = none ∨ ∃ v, o = some (v, [])

theorem readNumber_trunc (neg : Bool) (ds : Str) (hd : ∀ c ∈ ds, c.isDigit = true) :
    TruncRes (readNumber ((if neg then ['-'] else []) ++ ds)) := by
  have := readNumber_digits neg ds [] hd Stop.nil
  rw [List.append_nil] at this
  rw [this]
  split
  · exact Or.inl rfl
  · exact Or.inr ⟨_, rfl⟩

theorem trunc_num (neg : Bool) {ds : Str} (hd : ∀ c ∈ ds, c.isDigit = true) (f : Nat) :
    TruncRes (readValue f ((if neg then ['-'] else []) ++ ds)) := by
  cases f with
  | zero => exact Or.inl (by simp [readValue])
  | succ f =>
    have := readNumber_trunc neg ds hd
    cases neg with
    | true => exact (readValue_num f (Or.inl rfl) ds).symm ▸ this
    | false =>
      cases ds with
      | nil => exact Or.inl (readValue_nil _)
      | cons d q => exact (readValue_num f (Or.inr (hd d (List.mem_cons_self ..))) q).symm ▸ this

/-- a printed value followed by `tail` (nothing, or a comma and more), cut anywhere -/
theorem value_then (x : Json) (hx : clean x = true)
    (ih : ∀ p, p <+: render x → p ≠ render x → ∀ f, TruncRes (readValue f p))
    {tail : Str} (htail : tail = [] ∨ ∃ t, tail = ',' :: t) {q : Str} (hq : q <+: render x ++ tail) (f : Nat) :
    TruncRes (readValue f q) ∨ ∃ q', ',' :: q' <+: tail ∧ readValue f q = some (x, ',' :: q') := by
  have whole : TruncRes (readValue f (render x)) := by
    have := readValue_det x hx [] Stop.nil f
    rw [List.append_nil] at this
    exact this.imp_right fun h => ⟨x, h⟩
  rcases prefix_append' hq with h1 | ⟨r, rfl, h2⟩
  · by_cases he : q = render x
    · exact Or.inl (he ▸ whole)
    · exact Or.inl (ih q h1 he f)
  · rcases htail with rfl | ⟨t, rfl⟩
    · rw [List.prefix_nil.1 h2, List.append_nil]; exact Or.inl whole
    · rcases List.prefix_cons_iff.1 h2 with rfl | ⟨q', rfl, _⟩
      · rw [List.append_nil]; exact Or.inl whole
      · exact (readValue_det x hx _ (Stop.comma q') f).imp Or.inl fun h0 => ⟨q', h2, h0⟩

/-- the reader on a cut string, array or object: the opening character, then a cut body that its reader rejects -/
theorem trunc_open {α : Type} {c d : Char} {body : Str} {p : Str} (hp : p <+: c :: (body ++ [d])) (hne : p ≠ c :: (body ++ [d]))
    {rd : Nat → Str → Option α} {g : α → Json × Str}
    (hd : ∀ f q, q <+: body → readValue (f + 1) (c :: q) = (rd f q).map g) (hrd : ∀ f q, q <+: body → rd f q = none)
    (f : Nat) : readValue f p = none := by
  rcases List.prefix_cons_iff.1 hp with rfl | ⟨q, rfl, hq⟩
  · exact readValue_nil f
  · have hq' : q <+: body := (List.prefix_concat_iff.1 hq).resolve_left (fun e => hne (by rw [e]))
    cases f with
    | zero => simp [readValue]
    | succ f => rw [hd f q hq', hrd f q hq']; rfl

/- The right disjunct is the one exception: a number cut after a digit is a shorter number, which the reader accepts with
   nothing left over. Inside an array or object that is harmless, because the closing bracket is then missing
   (`value_then`). The proofs enumerate where the cut `p` can fall, piece by piece of the printed text
   (`List.prefix_cons_iff`, `prefix_append'`): in an object member, before the key, inside it, after it, after the colon,
   inside the value, or after it. -/
mutual
  theorem trunc_reject : (j : Json) → clean j = true → ∀ p, p <+: render j → p ≠ render j → ∀ f,
      readValue f p = none ∨ ((∃ n, j = .num n) ∧ ∃ v, readValue f p = some (v, []))
    | .null, _, p, hp, hne, f => Or.inl (trunc_word readValue_null (lit_null ▸ hp) (lit_null ▸ hne) f)
    | .bool true, _, p, hp, hne, f =>
      Or.inl (trunc_word readValue_true (lit_true ▸ hp) (lit_true ▸ hne) f)
    | .bool false, _, p, hp, hne, f =>
      Or.inl (trunc_word readValue_false (lit_false ▸ hp) (lit_false ▸ hne) f)
    | .float, hc, _, _, _, _ => by simp [clean] at hc
    | .num (.ofNat n), _, p, hp, _, f =>
      (trunc_num false (fun c hc => showNat_digits n c (List.IsPrefix.mem hc hp)) f).imp_right fun h => ⟨⟨_, rfl⟩, h⟩
    | .num (.negSucc n), _, p, hp, _, f => by
      rcases List.prefix_cons_iff.1 hp with rfl | ⟨q, rfl, hq⟩
      · exact Or.inl (readValue_nil f)
      · exact (trunc_num true (fun c hc => showNat_digits (n + 1) c (List.IsPrefix.mem hc hq)) f).imp_right fun h => ⟨⟨_, rfl⟩, h⟩
    | .str s, hc, p, hp, hne, f =>
      Or.inl (trunc_open (body := s) (rd := fun _ q => readString [] q) hp hne (fun f q _ => readValue_str f q)
        (fun _ q hq => readString_trunc q (cleanStr_prefix hq (by simpa [clean] using hc)) []) f)
    | .arr l, hc, p, hp, hne, f => by
      have hl : cleanList l = true := by simpa [clean] using hc
      refine Or.inl (trunc_open (body := renderList l) (rd := fun f q => readElems f q []) hp hne
        (fun f q hq => readValue_arr f q ?_) (fun f q hq => trunc_elems l hl q hq f []) f)
      cases l with
      | nil => simp [List.prefix_nil.1 hq, skipWs]
      | cons x xs =>
        simp only [cleanList, Bool.and_eq_true] at hl
        rw [renderList_cons] at hq
        exact head_render x hl.1 (stop_listTail xs []) (List.append_assoc .. ▸ hq.trans (List.prefix_append ..))
    | .obj kvs, hc, p, hp, hne, f => by
      have hl : cleanFields kvs = true := by simpa [clean] using hc
      refine Or.inl (trunc_open (body := renderFields kvs) (rd := fun f q => readMembers f q []) hp hne
        (fun f q hq => readValue_obj f q ?_) (fun f q hq => trunc_members kvs hl q hq f []) f)
      cases kvs with
      | nil => simp [List.prefix_nil.1 hq, skipWs]
      | cons kv rest =>
        rw [renderFields_cons] at hq
        rcases List.prefix_cons_iff.1 hq with rfl | ⟨q', rfl, _⟩ <;> simp [skipWs, isWs]
  theorem trunc_elems : (l : List Json) → cleanList l = true → ∀ p, p <+: renderList l → ∀ f acc, readElems f p acc = none
    | [], _, p, hp, f, acc => by
      rw [List.prefix_nil.1 hp]; cases f <;> simp [readElems, readValue_nil]
    | _ :: _, _, _, _, 0, _ => by simp [readElems]
    | x :: xs, hc, p, hp, f + 1, acc => by
      simp only [cleanList, Bool.and_eq_true] at hc
      rw [renderList_cons] at hp
      have ih := fun p hp hne f => (trunc_reject x hc.1 p hp hne f).imp_right (·.2)
      rw [readElems]
      rcases value_then x hc.1 ih (by cases xs <;> simp [listTail]) hp f with (h | ⟨v, h⟩) | ⟨q', hq', h⟩
      · rw [h]
      · simp [h, skipWs]
      · cases xs with
        | nil => simp [listTail] at hq'
        | cons y ys =>
          simp only [h, skipWs_cons (c := ',') (by decide)]
          exact trunc_elems (y :: ys) hc.2 q' ((List.prefix_cons_inj ',').1 hq') f _
  theorem trunc_members : (kvs : List (Str × Json)) → cleanFields kvs = true → ∀ p, p <+: renderFields kvs →
      ∀ f acc, readMembers f p acc = none
    | [], _, p, hp, f, acc => by
      rw [List.prefix_nil.1 hp]; cases f <;> simp [readMembers, skipWs]
    | _ :: _, _, _, _, 0, _ => by simp [readMembers]
    | (k, v) :: rest, hc, p, hp, f + 1, acc => by
      simp only [cleanFields, Bool.and_eq_true] at hc
      rw [renderFields_cons] at hp
      have ih := fun p hp hne f => (trunc_reject v hc.1.2 p hp hne f).imp_right (·.2)
      rw [readMembers]
      rcases List.prefix_cons_iff.1 hp with rfl | ⟨q, rfl, hq⟩
      · simp [skipWs]
      · simp only [skipWs_cons (c := '"') (by decide)]
        rcases prefix_append' hq with h1 | ⟨q1, rfl, h2⟩
        · rw [readString_trunc q (cleanStr_prefix h1 hc.1.1)]
        · rcases List.prefix_cons_iff.1 h2 with rfl | ⟨q2, rfl, h3⟩
          · rw [List.append_nil, readString_trunc k hc.1.1]
          · simp only [readString_clean k hc.1.1, List.reverse_nil, List.nil_append]
            rcases List.prefix_cons_iff.1 h3 with rfl | ⟨q3, rfl, h4⟩
            · simp [skipWs]
            · simp only [skipWs_cons (c := ':') (by decide)]
              rcases value_then v hc.1.2 ih (by cases rest <;> simp [fieldsTail]) h4 f with (h | ⟨w, h⟩) | ⟨q', hq', h⟩
              · rw [h]
              · simp [h, skipWs]
              · cases rest with
                | nil => simp [fieldsTail] at hq'
                | cons y ys =>
                  simp only [h, skipWs_cons (c := ',') (by decide)]
                  exact trunc_members (y :: ys) hc.2 q' ((List.prefix_cons_inj ',').1 hq') f _
end

theorem trunc_value : (j : Json) → clean j = true → ∀ p, p <+: render j → p ≠ render j → ∀ f, TruncRes (readValue f p) :=
  fun j hc p hp hne f => (trunc_reject j hc p hp hne f).imp_right (·.2)

theorem parseJson_truncated (kvs : List (Str × Json)) (hc : clean (.obj kvs) = true) (p : Str)
    (hp : p <+: render (.obj kvs)) (hne : p ≠ render (.obj kvs)) : parseJson p = none := by
  rcases trunc_reject _ hc p hp hne (p.length + 2) with h | ⟨⟨n, h⟩, _⟩
  · rw [parseJson, h]
  · cases h

end PLV.J
