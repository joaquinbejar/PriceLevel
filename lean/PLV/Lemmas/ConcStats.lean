/-
  Statistics under concurrency (helper lemmas for C15): along EVERY schedule the four counters
  equal, modulo 2^64, the events that have happened so far plus/minus what the calls in progress
  have recorded early or still owe.

  Events (what an observer counts): an `add_order` call returns; a cancel returns its order; a
  transaction is created (quantity `q`, maker price `p`: executed quantity `q`, value `q·p`).
-/
import PLV.Lemmas.ConcLocal
import PLV.Lemmas.ConcShare
import PLV.Lemmas.Stats

namespace PLV.Conc
open PLV

structure Ev where
  adds : Nat := 0
  removed : Nat := 0
  qty : Nat := 0
  value : Nat := 0
  deriving Repr, Inhabited, DecidableEq

def Ev.plus (a b : Ev) : Ev := ⟨a.adds + b.adds, a.removed + b.removed, a.qty + b.qty, a.value + b.value⟩

/-- the event that happens at the step a thread takes from `pc` -/
def evAt : Pc → Ev
  | .add5 _ => { adds := 1 }
  | .can4 _ => { removed := 1 }
  | .mUuid L o => { qty := (matchAgainst o L.rem).consumed, value := (matchAgainst o L.rem).consumed * o.price }
  | _ => {}

/-- `orders_added` already bumped although the add has not returned yet -/
def owedA : Pc → Nat
  | .add4 _ | .add5 _ => 1
  | _ => 0

/-- a transaction exists whose quantity is not recorded yet -/
def dueQ : Pc → Nat
  | .mSt1 L o | .mSt2 L o => (matchAgainst o L.rem).consumed
  | _ => 0

/-- a transaction exists whose value is not recorded yet -/
def dueV : Pc → Nat
  | .mSt1 L o | .mSt2 L o | .mSt3 L o => (matchAgainst o L.rem).consumed * o.price
  | _ => 0

def After.owedA : After → Nat | .cont pc => Conc.owedA pc | .done _ => 0
def After.dueQ : After → Nat | .cont pc => Conc.dueQ pc | .done _ => 0
def After.dueV : After → Nat | .cont pc => Conc.dueV pc | .done _ => 0

theorem aO_c (pc : Pc) : (After.cont pc).owedA = owedA pc := rfl
theorem aO_d (r : String) : (After.done r).owedA = 0 := rfl
theorem aQ_c (pc : Pc) : (After.cont pc).dueQ = dueQ pc := rfl
theorem aQ_d (r : String) : (After.done r).dueQ = 0 := rfl
theorem aV_c (pc : Pc) : (After.cont pc).dueV = dueV pc := rfl
theorem aV_d (r : String) : (After.done r).dueV = 0 := rfl

theorem owedA_ite (c : Prop) [Decidable c] (a b : Pc) : owedA (if c then a else b) = if c then owedA a else owedA b := apply_ite _ _ _ _
theorem dueQ_ite (c : Prop) [Decidable c] (a b : Pc) : dueQ (if c then a else b) = if c then dueQ a else dueQ b := apply_ite _ _ _ _
theorem dueV_ite (c : Prop) [Decidable c] (a b : Pc) : dueV (if c then a else b) = if c then dueV a else dueV b := apply_ite _ _ _ _
theorem aOwedA_ite (c : Prop) [Decidable c] (a b : After) : (if c then a else b).owedA = if c then a.owedA else b.owedA := apply_ite _ _ _ _
theorem aDueQ_ite (c : Prop) [Decidable c] (a b : After) : (if c then a else b).dueQ = if c then a.dueQ else b.dueQ := apply_ite _ _ _ _
theorem aDueV_ite (c : Prop) [Decidable c] (a b : After) : (if c then a else b).dueV = if c then a.dueV else b.dueV := apply_ite _ _ _ _

theorem afterVisit_zero (L : MLoc) :
    owedA (afterVisit L).pc = 0 ∧ dueQ (afterVisit L).pc = 0 ∧ dueV (afterVisit L).pc = 0 :=
  afterVisit_elim (P := fun a => owedA a.pc = 0 ∧ dueQ a.pc = 0 ∧ dueV a.pc = 0) L (fun _ => ⟨rfl, rfl, rfl⟩)
    (fun _ => ⟨rfl, rfl, rfl⟩) (fun _ _ _ => ⟨rfl, rfl, rfl⟩)

theorem afterStats_zero (L : MLoc) (o : Order) :
    owedA (afterStats L o).pc = 0 ∧ dueQ (afterStats L o).pc = 0 ∧ dueV (afterStats L o).pc = 0 :=
  afterStats_elim (P := fun a => owedA a.pc = 0 ∧ dueQ a.pc = 0 ∧ dueV a.pc = 0) L o (fun _ => ⟨rfl, rfl, rfl⟩)
    (fun _ _ _ => afterVisit_zero _) (fun _ _ _ => ⟨rfl, rfl, rfl⟩) (fun _ _ _ _ => ⟨rfl, rfl, rfl⟩)

/-- one step, locally: how the counters, the thread's early/owed amounts and the event relate -/
theorem Step.stats {s s' : Shared} {pc : Pc} {a : After} (h : Step s pc s' a) :
    (s'.stats.added + owedA pc) % W = (s.stats.added + ((evAt pc).adds + owedA a.pc)) % W ∧
    s'.stats.removed % W = (s.stats.removed + (evAt pc).removed) % W ∧
    (s'.stats.qty + dueQ a.pc) % W = (s.stats.qty + (dueQ pc + (evAt pc).qty)) % W ∧
    (s'.stats.value + dueV a.pc) % W = (s.stats.value + (dueV pc + (evAt pc).value)) % W := by
  induction h
  -- a visit without execution goes straight to the statistics: nothing is due
  case mRm_dry L t o _ h0 => simp [After.pc, owedA, dueQ, dueV, evAt, h0]
  case' mSt4 | mSt5 => simp only [afterStats_zero]
  case' mTk | mCnt | mHLeft => simp only [afterVisit_zero]
  all_goals
    simp only [After.pc, owedA, dueQ, dueV, evAt, wadd, Nat.add_zero, Nat.zero_add, Nat.mod_mod, Nat.add_mod_mod,
      and_self]

theorem share_owedA : Share (fun t => owedA t.pc) owedA := .pc owedA rfl (by intro op; cases op <;> rfl)
theorem share_dueQ : Share (fun t => dueQ t.pc) dueQ := .pc dueQ rfl (by intro op; cases op <;> rfl)
theorem share_dueV : Share (fun t => dueV t.pc) dueV := .pc dueV rfl (by intro op; cases op <;> rfl)

def evStep (c : Cfg) (i : Nat) : Ev :=
  match c.ts[i]? with
  | none => {}
  | some t =>
    match t.norm with
    | none => {}
    | some tn => evAt tn.pc

def runEv (c : Cfg) : List Nat → Ev
  | [] => {}
  | i :: rest => (evStep c i).plus (runEv (step c i).1 rest)

/-- the statistics invariant: counters = start + events, corrected by what calls in progress have
    recorded early (`owedA`) or still owe (`dueQ`, `dueV`) — all modulo 2^64 -/
structure SInv (s0 : Stats) (c : Cfg) (E : Ev) : Prop where
  added : c.sh.stats.added % W = (s0.added + E.adds + sumT (fun t => owedA t.pc) c.ts) % W
  removed : c.sh.stats.removed % W = (s0.removed + E.removed) % W
  qty : (c.sh.stats.qty + sumT (fun t => dueQ t.pc) c.ts) % W = (s0.qty + E.qty) % W
  value : (c.sh.stats.value + sumT (fun t => dueV t.pc) c.ts) % W = (s0.value + E.value) % W

theorem evStep_eq (c : Cfg) (i : Nat) : evStep c i = evAt (c.pcOf i) := c.slot_pc i evAt

theorem SInv.step {s0 : Stats} {c : Cfg} {E : Ev} (h : SInv s0 c E) (i : Nat) :
    SInv s0 (Conc.step c i).1 (E.plus (evStep c i)) := by
  have s1 := share_owedA.step c i; have s2 := share_dueQ.step c i; have s3 := share_dueV.step c i
  have l := (tstep_step c.sh (c.pcOf i)).stats
  rw [evStep_eq]
  -- `l` is cleared before each `omega`: with the congruences in sight it costs many times more
  refine ⟨?_, ?_, ?_, ?_⟩ <;> simp only [Ev.plus, step_sh]
  · exact cong_move (x' := 0) l.1 (x := 0) h.added (by clear l; omega)
  · exact cong_move (x' := 0) (a := 0) l.2.1 (x := 0) h.removed (by clear l; omega)
  · exact cong_move l.2.2.1 h.qty (by clear l; omega)
  · exact cong_move l.2.2.2 h.value (by clear l; omega)

theorem SInv.run {s0 : Stats} (sched : List Nat) : ∀ {c : Cfg} {E : Ev}, SInv s0 c E →
    SInv s0 (Conc.run c sched) (E.plus (runEv c sched)) := by
  induction sched with
  | nil => intro c E h; simpa [Conc.run, runEv, Ev.plus] using h
  | cons i rest ih =>
    intro c E h
    have := ih (h.step i)
    simpa [Conc.run, runEv, Ev.plus, Nat.add_assoc] using this

/-- the counters stay 64-bit values: every update is a wrapping add -/
theorem Step.statsOk {s s' : Shared} {pc : Pc} {a : After} (h : Step s pc s' a) (hs : StatsOk s.stats) :
    StatsOk s'.stats := by
  induction h
  case add3 => exact ⟨wadd_lt _ _, hs.r, hs.q, hs.v⟩
  case can4 => exact ⟨hs.a, wadd_lt _ _, hs.q, hs.v⟩
  case mSt1 => exact ⟨hs.a, hs.r, hs.q, hs.v⟩
  case mSt2 => exact ⟨hs.a, hs.r, wadd_lt _ _, hs.v⟩
  case mSt3 => exact ⟨hs.a, hs.r, hs.q, wadd_lt _ _⟩
  all_goals exact hs

theorem statsOk_run {c : Cfg} (h : StatsOk c.sh.stats) (sched : List Nat) : StatsOk (Conc.run c sched).sh.stats :=
  run_inv (P := fun c => StatsOk c.sh.stats) (fun c i h => by rw [step_sh]; exact (tstep_step c.sh _).statsOk h) sched h

theorem sinv_init (l : Level) (g : Nat) (progs : List (List COp)) : SInv l.stats (Cfg.init l g progs) {} := by
  have hidle := init_idle l g progs
  refine ⟨?_, ?_, ?_, ?_⟩ <;> simp [sumT_idle (m := owedA) rfl hidle, sumT_idle (m := dueQ) rfl hidle,
    sumT_idle (m := dueV) rfl hidle] <;> rfl

end PLV.Conc
