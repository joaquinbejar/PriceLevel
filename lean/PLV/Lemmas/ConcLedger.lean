/-
  The per-order quantity ledger under concurrency (helper lemmas for C03): for a fixed order id `x`,
  along EVERY schedule, the quantity resting under `x` in the map plus what threads hold of `x`
  outside the map, plus everything that left (`executed`, `returned` by a cancel, `discarded` hidden
  quantity of an exhausted non-replenishing reserve order, amended `down`) equals everything that
  came (`start` + adds + amended `up`).
-/
import PLV.Lemmas.ConcGlobal

namespace PLV.Conc
open PLV

/-- total quantity of order `o` if it is the order `x` -/
def otot (x : Id) (o : Order) : Nat := if o.id = x then o.vis + o.hid else 0

/-- executed against `o` in this visit, if `o` is the order `x` -/
def exq (x : Id) (o : Order) (q : Nat) : Nat := if o.id = x then (matchAgainst o q).consumed else 0

def ohid (x : Id) (o : Order) : Nat := if o.id = x then o.hid else 0

/-- quantity of order `x` a thread holds outside the map -/
def hand (x : Id) : Pc → Nat
  | .add0 o | .add1 o | .add2 o | .add3 o | .add4 o => otot x o
  | .can1 o | .can2 o | .can3 o | .can4 o => otot x o
  | .amV _ new | .amH _ new | .amIns new => otot x new
  | .mPop L | .mRm L _ | .mTk L _ => tot x L.aside
  | .mSubV L o | .mUuid L o => otot x o + tot x L.aside
  | .mSt1 L o | .mSt2 L o | .mSt3 L o | .mSt4 L o | .mSt5 L o => (otot x o - exq x o L.rem) + tot x L.aside
  | .mHSub L u _ | .mVAdd L u _ | .mIns L u => otot x u + tot x L.aside
  | .mCnt L o | .mHLeft L o => ohid x o + tot x L.aside
  | .fIns _ u rest => otot x u + tot x rest
  | .fTk _ _ rest => tot x rest
  | _ => 0

def After.hand (x : Id) : After → Nat | .cont pc => Conc.hand x pc | .done _ => 0

theorem ah_c (x : Id) (pc : Pc) : (After.cont pc).hand x = hand x pc := rfl
theorem ah_d (x : Id) (r : String) : (After.done r).hand x = 0 := rfl

/-- the events of one order's ledger: executed, returned by a cancel, discarded hidden quantity, amended up / down -/
structure LEv where
  exec : Nat := 0
  ret : Nat := 0
  disc : Nat := 0
  up : Nat := 0
  down : Nat := 0
  deriving Repr, Inhabited

def LEv.plus (a b : LEv) : LEv := ⟨a.exec + b.exec, a.ret + b.ret, a.disc + b.disc, a.up + b.up, a.down + b.down⟩

/-- what happens to order `x` at the step taken from `pc` in state `s` -/
def levAt (x : Id) (s : Shared) : Pc → LEv
  | .mUuid L o => { exec := exq x o L.rem }
  | .can4 o => { ret := otot x o }
  | .mHLeft _ o => { disc := ohid x o }
  | .am1 id n =>
    match s.map.find id with
    | none => {}
    | some o1 => { up := otot x (o1.withReduced n) - otot x o1, down := otot x o1 - otot x (o1.withReduced n) }
  | _ => {}

/-- `tot` one order at a time, in terms of `otot` (which the measures are written with) -/
theorem tot_nil (x : Id) : tot x [] = 0 := rfl
theorem tot_cons (x : Id) (u : Order) (l : List Order) : tot x (u :: l) = otot x u + tot x l := rfl

theorem afterVisit_hand (x : Id) (L : MLoc) : hand x (afterVisit L).pc = tot x L.aside :=
  afterVisit_elim (P := fun a => hand x a.pc = tot x L.aside) L (fun _ => rfl) (fun h => by simp [h, After.pc, hand, tot_nil])
    (fun u rest h => by simp [h, After.pc, hand, tot_cons])

theorem afterStats_hand (x : Id) (L : MLoc) (o : Order) :
    hand x (afterStats L o).pc = (otot x o - exq x o L.rem) + tot x L.aside := by
  have hc := ma_consumed_le o L.rem
  refine afterStats_elim (P := fun a => hand x a.pc = (otot x o - exq x o L.rem) + tot x L.aside) L o ?_ ?_ ?_ ?_
  · intro hu
    have := ma_leave hu
    simp only [After.pc, hand, otot, exq, ohid]
    split <;> omega
  · intro u hu _
    obtain ⟨h1, _, _⟩ := ma_stay hu
    simp only [afterVisit_hand, tot_append, tot_cons, tot_nil, otot, exq, h1]
    split <;> omega
  · intro u hu _
    obtain ⟨h1, _, _⟩ := ma_stay hu
    simp only [After.pc, hand, otot, exq, h1]
    split <;> omega
  · intro u hu _ _
    obtain ⟨h1, _, _⟩ := ma_stay hu
    simp only [After.pc, hand, otot, exq, h1]
    split <;> omega

theorem tot_insert_fresh' {m : OMap} {o : Order} (h : o.id ∉ ids m) (x : Id) :
    tot x (m.insert o) = tot x m + otot x o := by
  rw [tot_insert_fresh h]; rfl

theorem tot_erase_found {m : OMap} {id : Id} {o : Order} (hn : (ids m).Nodup) (hf : m.find id = some o) (x : Id) :
    tot x (m.erase id) + otot x o = tot x m := by
  have hid := (find_some hf).2
  by_cases hx : x = id
  · subst hx
    rw [tot_erase_self, tot_find hn hf]
    simp [otot, hid]
  · rw [tot_erase_ne hx]
    have : o.id ≠ x := by rw [hid]; exact fun e => hx e.symm
    simp [otot, this]

/-- one step, locally: the quantity of order `x` in the map and in the stepping thread's hands, the
    events of the step -/
theorem Step.ledger {s s' : Shared} {pc : Pc} {a : After} (h : Step s pc s' a) (x : Id) (hn : (ids s.map).Nodup)
    (hfresh : ∀ y ∈ held pc, y ∉ ids s.map) (hok : PcOk pc) :
    tot x s'.map + hand x a.pc + (levAt x s pc).exec + (levAt x s pc).ret + (levAt x s pc).disc + (levAt x s pc).down =
      tot x s.map + hand x pc + (levAt x s pc).up := by
  induction h
  case' add4 o | amIns o | mIns _ o | fIns _ o _ => rw [tot_insert_fresh' (hfresh o.id (by simp [held]))]
  case' can0_some id o h => have := tot_erase_found hn h x
  case' am1_amV id n o1 h _ | am1_amH id n o1 h _ | am1_amIns id n o1 h _ =>
    have := tot_erase_found hn h x; simp only [levAt, h]
  case' am1_none id n h => simp only [levAt, h]
  case' mRm_exec L t o h _ | mRm_dry L t o h _ =>
    have := tot_erase_found hn h x
    have : exq x o L.rem ≤ (matchAgainst o L.rem).consumed := by unfold exq; split <;> omega
  case' mUuid L o =>
    have := ma_consumed_le o L.rem
    have : exq x o L.rem ≤ otot x o := by unfold exq otot; split <;> omega
  case' mSt4 | mSt5 => rw [afterStats_hand]
  case' mTk | mHLeft => rw [afterVisit_hand]
  case' mCnt L o hk =>
    have : ohid x o = 0 := by unfold ohid; rw [mCnt_plain hk]; exact ite_self 0
    rw [afterVisit_hand]
  all_goals simp only [After.pc, hand, levAt, tot_cons, tot_nil, Nat.add_zero] <;> omega

def opTot (x : Id) : COp → Nat
  | .add o => otot x o
  | _ => 0

/-- what a thread holds of order `x` outside the map, or will bring with the adds it has yet to issue -/
def thand (x : Id) (t : Thread) : Nat := hand x t.pc + sumOps (opTot x) t.todo

theorem share_hand (x : Id) : Share (thand x) (hand x) :=
  .of (hand x) (opTot x) rfl (by intro op; cases op <;> simp [start, hand, opTot, tot])

def levStep (x : Id) (c : Cfg) (i : Nat) : LEv :=
  match c.ts[i]? with
  | none => {}
  | some t =>
    match t.norm with
    | none => {}
    | some tn => levAt x c.sh tn.pc

def runLev (x : Id) (c : Cfg) : List Nat → LEv
  | [] => {}
  | i :: rest => (levStep x c i).plus (runLev x (step c i).1 rest)

theorem levStep_eq (x : Id) (c : Cfg) (i : Nat) : levStep x c i = levAt x c.sh (c.pcOf i) :=
  c.slot_pc i (levAt x c.sh)

/-- the ledger of order `x` through one step: everything there is + everything that left =
    everything there was + everything that came -/
theorem ledger_step (x : Id) {c : Cfg} (hc : CInv c) (i : Nat) :
    tot x (step c i).1.sh.map + sumT (thand x) (step c i).1.ts + (levStep x c i).exec + (levStep x c i).ret +
      (levStep x c i).disc + (levStep x c i).down = tot x c.sh.map + sumT (thand x) c.ts + (levStep x c i).up := by
  obtain ⟨hfresh, hok⟩ := hc.at i
  have := (tstep_step c.sh (c.pcOf i)).ledger x hc.nodup hfresh hok
  have := (share_hand x).step c i
  simp only [levStep_eq, step_sh] at *; omega

theorem ledger_run (x : Id) (sched : List Nat) : ∀ {c : Cfg}, CInv c →
    tot x (run c sched).sh.map + sumT (thand x) (run c sched).ts + (runLev x c sched).exec + (runLev x c sched).ret +
      (runLev x c sched).disc + (runLev x c sched).down = tot x c.sh.map + sumT (thand x) c.ts + (runLev x c sched).up := by
  induction sched with
  | nil => intro c _; rfl
  | cons i rest ih =>
    intro c hc
    have := ih (hc.step i)
    have := ledger_step x hc i
    simp only [run, runLev, LEv.plus]; omega

end PLV.Conc
