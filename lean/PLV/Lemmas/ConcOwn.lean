/-
  More local lemmas about the small-step model (helpers for C03 / C08 / C13): one step preserves the
  well-formedness of the program counter and gives no id a new owner (map and hands, by counting).
-/
import PLV.Lemmas.ConcStep
import PLV.Lemmas.ConcDefs

namespace PLV.Conc
open PLV

theorem afterVisit_held (L : MLoc) : held (afterVisit L).pc = ids L.aside :=
  afterVisit_elim (P := fun a => held a.pc = ids L.aside) L (fun _ => rfl) (fun h => by simp [h, After.pc, held])
    (fun u rest h => by simp [h, After.pc, held])

theorem afterVisit_ok (L : MLoc) : PcOk (afterVisit L).pc :=
  afterVisit_elim (P := fun a => PcOk a.pc) L id (fun _ => trivial) (fun _ _ _ => trivial)

theorem afterStats_ok (L : MLoc) (o : Order) : PcOk (afterStats L o).pc :=
  afterStats_elim (P := fun a => PcOk a.pc) L o (fun _ => hid_of_plain o) (fun _ _ _ => afterVisit_ok _)
    (fun u hu _ => by have := ma_stay hu; have := ma_consumed_le o L.rem; simp only [After.pc, PcOk]; omega)
    (fun _ _ _ _ => trivial)

/-- the ids a match holds after the statistics of a visit: the visited order's id stays held unless
    it leaves the book (count-wise; the position in the list may change) -/
theorem afterStats_held (L : MLoc) (o : Order) (x : Id) :
    (held (afterStats L o).pc).count x ≤ (o.id :: ids L.aside).count x := by
  refine afterStats_elim (P := fun a => (held a.pc).count x ≤ (o.id :: ids L.aside).count x) L o ?_ ?_ ?_ ?_
  · intro _; exact List.count_le_count_cons
  · intro u hu _
    simp only [afterVisit_held, ids_append, ids_cons, ids_nil, (ma_stay hu).1, List.count_append,
      List.count_cons, List.count_nil]
    omega
  · intro u hu _; simp only [After.pc, held, (ma_stay hu).1]; exact Nat.le_refl _
  · intro u hu _ _; simp only [After.pc, held, (ma_stay hu).1]; exact Nat.le_refl _

theorem Step.ok {s s' : Shared} {pc : Pc} {a : After} (h : Step s pc s' a) (hok : PcOk pc) : PcOk a.pc := by
  induction h
  case mSt4 | mSt5 => exact afterStats_ok _ _
  case mTk | mCnt | mHLeft => exact afterVisit_ok _
  -- in every other row the successor asks for nothing, or for what the row itself was given
  all_goals trivial

theorem Step.own {s s' : Shared} {pc : Pc} {a : After} (h : Step s pc s' a) (x : Id) :
    (ids s'.map).count x + (held a.pc).count x ≤ (ids s.map).count x + (held pc).count x := by
  induction h
  case am1_amV id n o1 h _ | am1_amH id n o1 h _ | am1_amIns id n o1 h _ =>
    have := count_ids_erase_found h x
    have hid : (o1.withReduced n).id = id := (withReduced_id o1 n).trans (find_some h).2
    simp only [After.pc, held, hid, List.count_cons, List.count_nil, beq_iff_eq]; omega
  case mRm_exec L t o h _ | mRm_dry L t o h _ =>
    have := count_ids_erase_found h x
    simp only [After.pc, held, (find_some h).2, List.count_cons, beq_iff_eq]; omega
  case' add4 o | amIns o | mIns _ o | fIns _ o _ => have := count_ids_insert_le s.map o x
  case' can0_some id o _ => have := count_ids_erase_le s.map id x
  case mSt4 L o _ | mSt5 L o => exact Nat.add_le_add_left (afterStats_held L o x) _
  case' mTk | mCnt | mHLeft => rw [afterVisit_held]
  all_goals
    simp only [After.pc, held, ids_cons, ids_nil, List.count_cons, List.count_nil, beq_iff_eq, Nat.le_refl] <;> omega

end PLV.Conc
