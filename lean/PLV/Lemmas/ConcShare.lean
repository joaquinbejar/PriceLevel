/-
  What scheduling one slot does, for every sum invariant at once.

  The invariants of the interleaving model (C03 / C08 / C12 / C13 / C15) all read
  "something of the shared state + Σ over the threads of a measure = …". Two things about them do
  not depend on the invariant and are proved here once. `Cfg.pcOf`: the step of slot `i` is `tstep`
  at one program counter — that of the thread's started call, or `.idle` for an empty slot, and the
  idle step changes nothing. "No such thread / nothing left to do / a real step" are told apart in
  `Cfg.slot_eq`; the invariants never look at the three cases again (`step_of*` state them for whoever
  follows one known thread, as `ConcSolo` does). `Share.step`: a measure that charges a thread for its program
  counter, plus something that starting the next call does not change, moves in the sum by exactly
  what the step moves it at the program counter.
  Also here, because everything that speaks of an execution needs them and none of the invariants: the
  configuration a level and a program start from (`Shared.ofLevel`, `Cfg.init`) and what is asked of a call (`OpOk`).
-/
import PLV.Lemmas.ConcStep

namespace PLV.Conc
open PLV

def sumT (f : Thread → Nat) : List Thread → Nat
  | [] => 0
  | t :: ts => f t + sumT f ts

def sumOps (f : COp → Nat) : List COp → Nat
  | [] => 0
  | op :: rest => f op + sumOps f rest

theorem sumT_set (f : Thread → Nat) (ts : List Thread) (i : Nat) (t t' : Thread) (h : ts[i]? = some t) :
    sumT f (ts.set i t') + f t = sumT f ts + f t' := by
  induction ts generalizing i with
  | nil => simp at h
  | cons x rest ih =>
    cases i with
    | zero => simp at h; subst h; simp [sumT]; omega
    | succ k =>
      simp at h
      have := ih k h
      simp [sumT]; omega

theorem sumT_le_of_mem (f : Thread → Nat) (ts : List Thread) (i : Nat) (t : Thread) (h : ts[i]? = some t) :
    f t ≤ sumT f ts := by
  induction ts generalizing i with
  | nil => simp at h
  | cons x rest ih =>
    cases i with
    | zero => simp at h; subst h; simp [sumT]
    | succ k => simp at h; have := ih k h; simp [sumT]; omega

theorem sumT_congr {f g : Thread → Nat} (ts : List Thread) (h : ∀ t ∈ ts, f t = g t) : sumT f ts = sumT g ts := by
  induction ts with
  | nil => rfl
  | cons t rest ih =>
    simp only [sumT, h t (by simp), ih (fun t' ht' => h t' (by simp [ht']))]

theorem sumT_le_sumT {f g : Thread → Nat} (ts : List Thread) (h : ∀ t, f t ≤ g t) : sumT f ts ≤ sumT g ts := by
  induction ts with
  | nil => exact Nat.le_refl _
  | cons t rest ih => simp only [sumT]; have := h t; omega

theorem sumT_add (f g : Thread → Nat) (ts : List Thread) :
    sumT (fun t => f t + g t) ts = sumT f ts + sumT g ts := by
  induction ts with
  | nil => rfl
  | cons t rest ih => simp only [sumT, ih]; omega

theorem sumT_pos_iff (f : Thread → Nat) (ts : List Thread) :
    0 < sumT f ts ↔ ∃ (j : Nat) (t : Thread), ts[j]? = some t ∧ 0 < f t := by
  induction ts with
  | nil => simp [sumT]
  | cons u rest ih =>
    constructor
    · intro h
      by_cases hu : 0 < f u
      · exact ⟨0, u, rfl, hu⟩
      · obtain ⟨j, t, hj, ht⟩ := ih.1 (by simp only [sumT] at h; omega)
        exact ⟨j + 1, t, hj, ht⟩
    · rintro ⟨j, t, hj, ht⟩
      cases j with
      | zero => cases hj; simp only [sumT]; omega
      | succ k => have := ih.2 ⟨k, t, hj, ht⟩; simp only [sumT]; omega

theorem sumOps_zero (l : List COp) : sumOps (fun _ => 0) l = 0 := by
  induction l with
  | nil => rfl
  | cons _ _ ih => simp [sumOps, ih]

/-- the program counter at which slot `i` steps: that of thread `i` with its next call started, or
    `.idle` when there is no such thread or it has nothing left to do -/
def Cfg.pcOf (c : Cfg) (i : Nat) : Pc :=
  match c.ts[i]?.bind Thread.norm with
  | none => .idle
  | some tn => tn.pc

/-- The one place where scheduling a slot is taken apart. `step` and the event functions (`levStep`,
    `evStep`, `C14.drawOf`) all look up thread `i`, start its next call and act on the result, and do
    nothing when there is no such thread or no call left: a function of `c.ts[i]?.bind Thread.norm`. -/
theorem Cfg.slot_eq {α : Type} (c : Cfg) (i : Nat) (d : α) (f : Thread → α) :
    (match c.ts[i]? with
      | none => d
      | some t =>
        match t.norm with
        | none => d
        | some tn => f tn) =
    match c.ts[i]?.bind Thread.norm with
    | none => d
    | some tn => f tn := by
  cases c.ts[i]? with
  | none => rfl
  | some t => cases h : t.norm <;> simp [h]

theorem Cfg.slot_pc {α : Type} (c : Cfg) (i : Nat) (g : Pc → α) :
    (match c.ts[i]? with
      | none => g .idle
      | some t =>
        match t.norm with
        | none => g .idle
        | some tn => g tn.pc) = g (c.pcOf i) := by
  rw [c.slot_eq]; unfold Cfg.pcOf; cases c.ts[i]?.bind Thread.norm <;> rfl

theorem Cfg.slot_cases (c : Cfg) (i : Nat) :
    (c.pcOf i = .idle ∧ step c i = (c, none)) ∨
    ∃ t tn, c.ts[i]? = some t ∧ t.norm = some tn ∧ c.pcOf i = tn.pc ∧
      (step c i).1 = ⟨(tstep c.sh tn.pc).1, c.ts.set i (tn.after (tstep c.sh tn.pc).2.1)⟩ := by
  rw [show step c i = _ from c.slot_eq i _ _]
  unfold Cfg.pcOf
  cases hm : c.ts[i]?.bind Thread.norm with
  | none => exact Or.inl ⟨rfl, rfl⟩
  | some tn =>
    obtain ⟨t, hti, hn⟩ := Option.bind_eq_some_iff.1 hm
    exact Or.inr ⟨t, tn, hti, hn, rfl, rfl⟩

theorem Cfg.pcOf_of {c : Cfg} {i : Nat} {t tn : Thread} (hti : c.ts[i]? = some t) (hn : t.norm = some tn) :
    c.pcOf i = tn.pc := by simp [Cfg.pcOf, hti, hn]

theorem step_of {c : Cfg} {i : Nat} {t tn : Thread} (hti : c.ts[i]? = some t) (hn : t.norm = some tn) :
    step c i = (⟨(tstep c.sh tn.pc).1, c.ts.set i (tn.after (tstep c.sh tn.pc).2.1)⟩,
      some ("t" ++ toString i ++ ":" ++ (tstep c.sh tn.pc).2.2)) := by simp [step, hti, hn]

theorem step_of_none {c : Cfg} {i : Nat} (h : c.ts[i]? = none) : step c i = (c, none) := by simp [step, h]

theorem step_of_finished {c : Cfg} {i : Nat} {t : Thread} (hti : c.ts[i]? = some t) (hn : t.norm = none) :
    step c i = (c, none) := by simp [step, hti, hn]

theorem step_sh (c : Cfg) (i : Nat) : (step c i).1.sh = (tstep c.sh (c.pcOf i)).1 := by
  rcases c.slot_cases i with ⟨hp, hs⟩ | ⟨_, _, _, _, hp, hs⟩ <;> rw [hp, hs] <;> rfl

/-- `μ` charges a thread `m` of its program counter, plus something that starting the next call
    leaves unchanged (what the calls it has yet to issue will bring) -/
structure Share (μ : Thread → Nat) (m : Pc → Nat) : Prop where
  idle : m .idle = 0
  norm : ∀ {t tn : Thread}, t.norm = some tn → μ tn = μ t
  after : ∀ (tn : Thread) (a : After), μ (tn.after a) + m tn.pc = μ tn + m a.pc

theorem Share.step {μ : Thread → Nat} {m : Pc → Nat} (h : Share μ m) (c : Cfg) (i : Nat) :
    sumT μ (Conc.step c i).1.ts + m (c.pcOf i) = sumT μ c.ts + m (tstep c.sh (c.pcOf i)).2.1.pc := by
  rcases c.slot_cases i with ⟨hp, hs⟩ | ⟨t, tn, hti, hn, hp, hs⟩ <;> rw [hp, hs]
  · rfl
  · have := sumT_set μ c.ts i t (tn.after (tstep c.sh tn.pc).2.1) hti
    have := h.after tn (tstep c.sh tn.pc).2.1
    have := h.norm hn
    dsimp only; omega

theorem Share.le {μ : Thread → Nat} {m : Pc → Nat} (h : Share μ m) (c : Cfg) (i : Nat) :
    m (c.pcOf i) ≤ sumT μ c.ts := by
  rcases c.slot_cases i with ⟨hp, _⟩ | ⟨t, tn, hti, hn, hp, _⟩ <;> rw [hp]
  · rw [h.idle]; exact Nat.zero_le _
  · have := sumT_le_of_mem μ c.ts i t hti
    have := h.norm hn
    -- a thread that returned at once would be charged nothing for its program counter
    have := h.after tn (.done "")
    have := h.idle
    simp only [After.pc] at *
    omega

/-- the usual share: `m` of the program counter and `w` for each call not yet started, where `w op`
    is what `m` says at the start of `op` -/
theorem Share.of (m : Pc → Nat) (w : COp → Nat) (h0 : m .idle = 0) (hs : ∀ op, m (start op) = w op) :
    Share (fun t => m t.pc + sumOps w t.todo) m where
  idle := h0
  norm := by
    intro t tn h
    unfold Thread.norm at h
    split at h
    · cases h
    · rename_i op rest hpc htodo; cases h; simp only [hpc, htodo, sumOps, hs, h0]; omega
    · cases h; rfl
  after := by
    intro tn a
    cases a <;> simp only [Thread.after, After.pc, h0] <;> omega

theorem Share.pc (m : Pc → Nat) (h0 : m .idle = 0) (hs : ∀ op, m (start op) = 0) :
    Share (fun t => m t.pc) m := by
  simpa only [sumOps_zero, Nat.add_zero] using Share.of m (fun _ => 0) h0 hs

theorem Share.add {μ₁ μ₂ : Thread → Nat} {m₁ m₂ : Pc → Nat} (h₁ : Share μ₁ m₁) (h₂ : Share μ₂ m₂) :
    Share (fun t => μ₁ t + μ₂ t) (fun pc => m₁ pc + m₂ pc) where
  idle := by simp only [h₁.idle, h₂.idle]
  norm h := by simp only [h₁.norm h, h₂.norm h]
  after tn a := by have := h₁.after tn a; have := h₂.after tn a; omega

theorem sumT_zero {f : Thread → Nat} (ts : List Thread) (h : ∀ t ∈ ts, f t = 0) : sumT f ts = 0 := by
  induction ts with
  | nil => rfl
  | cons t rest ih => simp only [sumT, h t (by simp), ih (fun t' ht' => h t' (by simp [ht']))]

theorem sumT_idle {m : Pc → Nat} (h0 : m .idle = 0) {ts : List Thread} (h : ∀ t ∈ ts, t.pc = .idle) :
    sumT (fun t => m t.pc) ts = 0 :=
  sumT_zero ts (fun t ht => by rw [h t ht, h0])

theorem done_idle {c : Cfg} (hd : allDone c = true) : ∀ t ∈ c.ts, t.pc = .idle ∧ t.todo = [] := by
  intro t ht
  have := List.all_eq_true.1 hd t ht
  unfold Thread.finished at this
  split at this
  · exact ⟨‹_›, ‹_›⟩
  · cases this

theorem sumT_done {m : Pc → Nat} (w : COp → Nat) (h0 : m .idle = 0) {c : Cfg} (hd : allDone c = true) :
    sumT (fun t => m t.pc + sumOps w t.todo) c.ts = 0 := by
  rw [sumT_congr c.ts (g := fun t => m t.pc) (fun t ht => by simp only [(done_idle hd t ht).2, sumOps, Nat.add_zero])]
  exact sumT_idle h0 (fun t ht => (done_idle hd t ht).1)

/-- the shared state a concurrent execution starts from -/
def Shared.ofLevel (l : Level) (g : Nat) : Shared :=
  { price := l.price, vis := l.vis, hid := l.hid, cnt := l.cnt, map := l.map, tickets := l.tickets, stats := l.stats, g := g }

/-- the level a shared state stands for -/
def Shared.level (s : Shared) : Level :=
  { price := s.price, vis := s.vis, hid := s.hid, cnt := s.cnt, map := s.map, tickets := s.tickets, stats := s.stats }

@[simp] theorem level_ofLevel (l : Level) (g : Nat) : (Shared.ofLevel l g).level = l := rfl
@[simp] theorem ofLevel_level (s : Shared) : Shared.ofLevel s.level s.g = s := rfl
@[simp] theorem ofLevel_g (l : Level) (g : Nat) : (Shared.ofLevel l g).g = g := rfl

def Cfg.init (l : Level) (g : Nat) (progs : List (List COp)) : Cfg :=
  { sh := Shared.ofLevel l g, ts := progs.map (fun ops => { todo := ops }) }

theorem init_idle (l : Level) (g : Nat) (progs : List (List COp)) : ∀ t ∈ (Cfg.init l g progs).ts, t.pc = .idle := by
  intro t ht; obtain ⟨ops, _, rfl⟩ := List.mem_map.1 ht; rfl

/-- what the model asks of a call: a match asks for at least 1 — its loop starts at `.mPop` and
    `PcOk` wants `rem ≠ 0` there -/
def OpOk : COp → Prop
  | .matchQ q _ => q ≠ 0
  | _ => True

theorem run_append (c : Cfg) (xs ys : List Nat) : run c (xs ++ ys) = run (run c xs) ys := by
  induction xs generalizing c with
  | nil => rfl
  | cons x rest ih => simp [run, ih]

theorem run_inv {P : Cfg → Prop} (hstep : ∀ c i, P c → P (step c i).1) (sched : List Nat) :
    ∀ {c : Cfg}, P c → P (run c sched) := by
  induction sched with
  | nil => exact id
  | cons i rest ih => exact fun h => ih (hstep _ i h)

end PLV.Conc
