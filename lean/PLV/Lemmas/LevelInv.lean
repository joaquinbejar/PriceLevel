/-
  `Level.Inv`: the invariant of a level between public calls, and its preservation by every
  operation (helper lemmas).
-/
import PLV.Lemmas.Agg
import PLV.Model.Hist

namespace PLV

/-- a level between public calls: distinct ids, every key ticketed (what lets a match find every resting
    order: C06's exhaustion, the hand-out order as a permutation of the map), and the three wrapping counters
    equal to the sums over the map, which fit in 64 bits -/
structure Level.Inv (l : Level) : Prop where
  nodup : (ids l.map).Nodup
  covered : ∀ x ∈ ids l.map, x ∈ l.tickets
  vis : l.vis = sumVis l.map
  hid : l.hid = sumHid l.map
  cnt : l.cnt = l.map.length
  fits : sumVis l.map + sumHid l.map < W
  cfits : l.map.length < W

theorem Level.inv_new (p : Nat) : (Level.new p).Inv := by
  refine ⟨?_, ?_, ?_, ?_, ?_, ?_, ?_⟩ <;> simp [Level.new, sumVis, sumHid]

theorem Level.Inv.agg {l : Level} (h : l.Inv) (g : Nat) :
    AggInv l.map l.tickets { vis := l.vis, hid := l.hid, cnt := l.cnt, stats := l.stats, g := g } :=
  ⟨h.nodup, by simp, by simp, h.covered, by simpa [sumVis] using h.vis, by simpa [sumHid] using h.hid,
    by simpa using h.cnt, by simpa [sumVis, sumHid] using h.fits, by simpa using h.cfits⟩

theorem Level.Inv.bounds {l : Level} {id : Id} {o : Order} (h : l.Inv) (hf : l.map.find id = some o) :
    o.vis ≤ l.vis ∧ o.hid ≤ l.hid ∧ 1 ≤ l.cnt ∧ l.vis < W ∧ l.hid < W ∧ l.cnt < W := by
  have := sumVis_le_of_find h.nodup hf
  have := h.vis; have := h.hid; have := h.cnt; have := h.fits; have := h.cfits
  omega

/-- the arithmetic half of the invariant survives whenever counters and sums move by the same amounts
    (`d…` leave, `u…` come) and the new sums still fit -/
theorem Level.Inv.move {l l' : Level} {dv uv dh uh dc uc : Nat} (h : l.Inv)
    (hN : (ids l'.map).Nodup) (hC : ∀ x ∈ ids l'.map, x ∈ l'.tickets)
    (cv : l'.vis + dv = l.vis + uv) (ch : l'.hid + dh = l.hid + uh) (cc : l'.cnt + dc = l.cnt + uc)
    (mv : sumVis l'.map + dv = sumVis l.map + uv) (mh : sumHid l'.map + dh = sumHid l.map + uh)
    (mn : l'.map.length + dc = l.map.length + uc)
    (hf : sumVis l.map + sumHid l.map + uv + uh < W + dv + dh) (hcf : l.map.length + uc < W + dc) : l'.Inv := by
  have := h.vis; have := h.hid; have := h.cnt
  exact ⟨hN, hC, by omega, by omega, by omega, by omega, by omega⟩

theorem Level.Inv.addOrder_inv {l : Level} {o : Order} (h : l.Inv) (ha : Adm l (.add o)) :
    (l.addOrder o).Inv := by
  obtain ⟨hfresh, hfit, hc⟩ := ha
  have hs := sum_insert_fresh (find_none.1 hfresh)
  have hv := h.vis; have hh := h.hid; have hn := h.cnt
  refine h.move (dv := 0) (uv := o.vis) (dh := 0) (uh := o.hid) (dc := 0) (uc := 1)
    (hN := nodup_insert _ h.nodup) (hC := covered_insert o h.covered) ?cv ?ch ?cc ?mv ?mh ?mn ?hf ?hcf
  case hf | hcf => omega
  all_goals simp only [Level.addOrder]
  case cv | ch | cc => rw [Nat.add_zero]; exact wadd_eq (by omega)
  case mv | mh | mn => omega

theorem Level.finishMatch_inv (l : Level) (taker : Id) (res : Nat × OMap × List Id × Acc)
    (hl : AggInv res.2.1 res.2.2.1 res.2.2.2) : (l.finishMatch taker res).1.Inv := by
  have := hl.vis; have := hl.hid; have := hl.cnt; have := hl.fits; have := hl.cfits
  simp only [Level.finishMatch, requeueAside_eq _ _ _ hl.disj hl.nodupA]
  refine ⟨?_, ?_, ?_, ?_, ?_, ?_, ?_⟩ <;> simp only [ids_append, sumVis_append, sumHid_append, List.length_append]
  · exact List.nodup_append.2 ⟨hl.nodupM, hl.nodupA, fun a ha b hb e => hl.disj b hb (e ▸ ha)⟩
  · intro x hx
    rcases List.mem_append.1 hx with hx | hx
    · exact List.mem_append_left _ (hl.covered x hx)
    · exact List.mem_append_right _ hx
  all_goals omega

theorem Level.Inv.matchOrder_inv {l : Level} (h : l.Inv) (q : Nat) (t : Id) (g : Nat) :
    (l.matchOrder q t g).1.Inv :=
  Level.finishMatch_inv l t _ (matchLoop_agg l.price t q l.map l.tickets _ (h.agg g))

theorem Level.removeOrder_none {l : Level} {id : Id} (h : l.map.find id = none) :
    l.removeOrder id = (l, .ok none) := by simp [Level.removeOrder, h]

theorem Level.removeOrder_eq {l : Level} {id : Id} {o : Order} (h : l.map.find id = some o) :
    l.removeOrder id =
      ({ l with map := l.map.erase id, vis := wsub l.vis o.vis, hid := wsub l.hid o.hid, cnt := wsub l.cnt 1,
                stats := { l.stats with removed := wadd l.stats.removed 1 } }, .ok (some o)) := by
  simp [Level.removeOrder, h]

theorem Level.removeOrder_queue (l : Level) (id : Id) :
    (l.removeOrder id).1.map = l.map.erase id ∧ (l.removeOrder id).1.tickets = l.tickets := by
  cases hf : l.map.find id with
  | none => rw [Level.removeOrder_none hf, erase_of_not_mem (find_none.1 hf)]; exact ⟨rfl, rfl⟩
  | some o => rw [Level.removeOrder_eq hf]; exact ⟨rfl, rfl⟩

theorem Level.Inv.removeOrder_inv {l : Level} (h : l.Inv) (id : Id) : (l.removeOrder id).1.Inv := by
  cases hf : l.map.find id with
  | none => rw [Level.removeOrder_none hf]; exact h
  | some o =>
    have he := erase_find h.nodup hf
    have hb := h.bounds hf
    have := h.fits; have := h.cfits
    rw [Level.removeOrder_eq hf]
    refine h.move (dv := o.vis) (uv := 0) (dh := o.hid) (uh := 0) (dc := 1) (uc := 0)
      (hN := nodup_erase _ h.nodup) (hC := fun x hx => h.covered x (mem_ids_erase.1 hx).1)
      ?cv ?ch ?cc ?mv ?mh ?mn ?hf ?hcf
    case cv => exact wsub_add hb.1 (by omega)
    case ch => exact wsub_add hb.2.1 (by omega)
    case cc => exact wsub_add hb.2.2.1 (by omega)
    case hf | hcf => omega
    case mv | mh | mn => simp only; omega

theorem Conc.adjust_same (c a : Nat) : adjust c a a = c := by simp [adjust]

theorem adjust_eq {c old new : Nat} (ho : old ≤ c) (hc : c < W) (hn : c + new < W + old) :
    adjust c old new + old = c + new := by
  unfold adjust
  split
  · omega
  · split
    · rw [wadd_eq (by omega)]; omega
    · rw [wsub_eq (by omega) hc]; omega

theorem Level.amend_none {l : Level} {id : Id} {n : Nat} (h : l.map.find id = none) :
    l.amend id n = (l, .ok none) := by simp [Level.amend, h]

theorem Level.amend_eq {l : Level} {id : Id} {n : Nat} {old : Order} (h : l.map.find id = some old) :
    l.amend id n =
      ({ l with vis := adjust l.vis old.vis (old.withReduced n).vis,
                hid := adjust l.hid old.hid (old.withReduced n).hid,
                map := (l.map.erase id).insert (old.withReduced n), tickets := l.tickets ++ [id] },
       .ok (some (old.withReduced n))) := by
  simp [Level.amend, h]

theorem Level.Inv.amend_inv {l : Level} (h : l.Inv) (id : Id) (n : Nat)
    (ha : ∀ old, l.map.find id = some old → sumVis l.map + sumHid l.map + (old.withReduced n).vis < W) :
    (l.amend id n).1.Inv := by
  cases hf : l.map.find id with
  | none => rw [Level.amend_none hf]; exact h
  | some old =>
    have he := erase_find h.nodup hf
    have hb := h.bounds hf
    have hid : old.id = id := (find_some hf).2
    have hfresh : (old.withReduced n).id ∉ ids (l.map.erase id) := by
      rw [withReduced_id, hid]; exact not_mem_ids_erase _ _
    have hs := sum_insert_fresh hfresh
    have hC : ∀ x ∈ ids ((l.map.erase id).insert (old.withReduced n)), x ∈ l.tickets ++ [id] := by
      rw [← hid, ← withReduced_id old n]
      exact covered_insert _ fun x hx => h.covered x (mem_ids_erase.1 hx).1
    have hv := h.vis; have hh := h.hid; have := h.cfits; have := ha old hf
    rw [withReduced_hid] at hs
    rw [Level.amend_eq hf, withReduced_hid, Conc.adjust_same]
    refine h.move (dv := old.vis) (uv := (old.withReduced n).vis) (dh := 0) (uh := 0) (dc := 0) (uc := 0)
      (hN := nodup_insert _ (nodup_erase _ h.nodup)) (hC := hC) ?cv ?ch ?cc ?mv ?mh ?mn ?hf ?hcf
    case cv => exact adjust_eq hb.1 (by omega) (by omega)
    case ch | cc => rfl
    case hf | hcf => omega
    case mv | mh | mn => simp only; omega

/-- a price move / cancel (as opposed to a same-price amend). `eventsOfStep` (Stats) counts a removal event
    for exactly these; `Level.update_eq` dispatches on it. -/
def Update.isRemoval (price : Nat) : Update → Bool
  | .cancel _ => true
  | .price _ p => p != price
  | .priceQty _ p _ => p != price
  | .replace _ p _ _ => p != price
  | .quantity _ _ => false

def Update.target : Update → Id
  | .cancel id | .price id _ | .priceQty id _ _ | .replace id _ _ _ | .quantity id _ => id

/-- the displayed quantity it asks for when it stays at the level's price (`UpdatePrice` asks for none) -/
def Update.newQty : Update → Option Nat
  | .quantity _ n | .priceQty _ _ n | .replace _ _ n _ => some n
  | .cancel _ | .price _ _ => none

/-- the five update kinds have three bodies: removal, same-price amend, rejection of a price update to the
    level's own price -/
theorem Level.update_eq (l : Level) (u : Update) :
    l.update u =
      if u.isRemoval l.price then l.removeOrder u.target
      else match u.newQty with
        | some n => l.amend u.target n
        | none => (l, .errSamePrice) := by
  cases u <;> simp [Level.update, Update.isRemoval, Update.target, Update.newQty]

theorem Adm.newQty {l : Level} {u : Update} {n : Nat} (ha : Adm l (.update u)) (hq : u.newQty = some n) :
    ∀ old, l.map.find u.target = some old → sumVis l.map + sumHid l.map + (old.withReduced n).vis < W := by
  cases u <;> simp only [Update.newQty, Option.some.injEq, reduceCtorEq] at hq <;> subst hq <;> exact ha

theorem Level.Inv.update_inv {l : Level} (h : l.Inv) (u : Update) (ha : Adm l (.update u)) :
    (l.update u).1.Inv := by
  rw [l.update_eq]
  split
  · exact h.removeOrder_inv _
  · split
    · rename_i n hq; exact h.amend_inv _ n (ha.newQty hq)
    · exact h

theorem Sys.step_inv {s : Sys} (h : s.lvl.Inv) (op : Op) (ha : Adm s.lvl op) : (s.step op).1.lvl.Inv := by
  cases op with
  | add o => exact h.addOrder_inv ha
  | matchQ q t => exact h.matchOrder_inv q t s.g
  | update u => exact h.update_inv u ha
  | read => exact h

theorem AdmAll.take : ∀ {ops : List Op} {s : Sys} (n : Nat), AdmAll s ops → AdmAll s (ops.take n)
  | [], _, _, _ => by simp [AdmAll]
  | _ :: _, _, 0, _ => trivial
  | _ :: _, _, n + 1, h => ⟨h.1, AdmAll.take n h.2⟩

theorem Sys.run_inv (ops : List Op) : ∀ {s : Sys}, s.lvl.Inv → AdmAll s ops → (s.run ops).lvl.Inv := by
  induction ops with
  | nil => intro s h _; exact h
  | cons op rest ih => intro s h ha; exact ih (Sys.step_inv h op ha.1) ha.2

end PLV
