/-
  Helper lemmas about the association-list map, sums and `popLive`; `ids` and `tot`, in whose terms every
  invariant is stated, are defined here.
  `OMap.find` and `OMap.erase` are core's `List.find?` and `List.filter` (`find_eq`, `erase_eq`); most of
  what is needed about them is then in the core library. What needs distinct ids, or speaks of the model's
  own sums (`sumVis`, `sumHid`, `tot`), core does not have: those lemmas go by induction on the map.
  Pushing an order whose id is not in the map appends it (`insert_fresh`), so re-queueing a list of such
  orders appends the list (`requeueAside_eq`).
-/
import PLV.Model.Level

namespace PLV

/-- the keys of the map, in its order: "distinct ids" is `(ids m).Nodup`, "every key has a ticket" is
    `∀ x ∈ ids m, x ∈ ts` -/
def ids (m : OMap) : List Id := m.map (·.id)

/-- per-id resting total: displayed + hidden of the order(s) stored under `id` -/
def tot (id : Id) : OMap → Nat
  | [] => 0
  | o :: rest => (if o.id = id then o.vis + o.hid else 0) + tot id rest

@[simp] theorem ids_nil : ids [] = [] := rfl
@[simp] theorem ids_cons (o : Order) (m : OMap) : ids (o :: m) = o.id :: ids m := rfl
@[simp] theorem ids_append (a b : OMap) : ids (a ++ b) = ids a ++ ids b := by simp [ids]

theorem mem_ids {m : OMap} {id : Id} : id ∈ ids m ↔ ∃ o ∈ m, o.id = id := by simp [ids]

theorem mem_ids_of_mem {m : OMap} {o : Order} (h : o ∈ m) : o.id ∈ ids m := mem_ids.2 ⟨o, h, rfl⟩

theorem find_eq (m : OMap) (id : Id) : m.find id = List.find? (fun o => o.id == id) m := by
  induction m with
  | nil => rfl
  | cons x rest ih => by_cases e : x.id = id <;> simp [OMap.find, e, ih]

theorem erase_eq (m : OMap) (id : Id) : m.erase id = m.filter (fun o => o.id != id) := by
  induction m with
  | nil => rfl
  | cons x rest ih => by_cases e : x.id = id <;> simp [OMap.erase, e, ih]

theorem find_some {m : OMap} {id : Id} {o : Order} (h : m.find id = some o) : o ∈ m ∧ o.id = id := by
  rw [find_eq] at h; exact ⟨List.mem_of_find?_eq_some h, by simpa using List.find?_some h⟩

theorem find_none {m : OMap} {id : Id} : m.find id = none ↔ id ∉ ids m := by
  simp [find_eq, ids]

theorem exists_find {m : OMap} {id : Id} (h : id ∈ ids m) : ∃ o, m.find id = some o := by
  cases hf : m.find id with
  | none => exact absurd h (find_none.1 hf)
  | some o => exact ⟨o, rfl⟩

theorem find_of_mem {m : OMap} {o : Order} (hn : (ids m).Nodup) (h : o ∈ m) : m.find o.id = some o := by
  induction m with
  | nil => simp at h
  | cons x rest ih =>
    simp at hn
    unfold OMap.find
    rcases List.mem_cons.1 h with rfl | h'
    · simp
    · have : x.id ≠ o.id := fun e => hn.1 (e ▸ mem_ids_of_mem h')
      simp [this]; exact ih hn.2 h'

theorem find_append (a b : OMap) (id : Id) : (a ++ b).find id = (a.find id).or (b.find id) := by
  simp [find_eq]

theorem mem_erase {m : OMap} {id : Id} {x : Order} : x ∈ m.erase id ↔ x ∈ m ∧ x.id ≠ id := by
  simp [erase_eq]

theorem mem_ids_erase {m : OMap} {id x : Id} : x ∈ ids (m.erase id) ↔ x ∈ ids m ∧ x ≠ id := by
  simp only [mem_ids, mem_erase]
  constructor
  · rintro ⟨o, ⟨ho, hne⟩, rfl⟩; exact ⟨⟨o, ho, rfl⟩, hne⟩
  · rintro ⟨⟨o, ho, rfl⟩, hne⟩; exact ⟨o, ⟨ho, hne⟩, rfl⟩

theorem not_mem_ids_erase (m : OMap) (id : Id) : id ∉ ids (m.erase id) := fun h => (mem_ids_erase.1 h).2 rfl

theorem mem_ids_of_find {m : OMap} {id : Id} {o : Order} (h : m.find id = some o) : id ∈ ids m :=
  (find_some h).2 ▸ mem_ids_of_mem (find_some h).1

theorem erase_of_not_mem {m : OMap} {id : Id} (h : id ∉ ids m) : m.erase id = m := by
  rw [erase_eq, List.filter_eq_self]
  intro a ha; simpa using fun e : a.id = id => h (e ▸ mem_ids_of_mem ha)

theorem ids_erase_sublist (m : OMap) (id : Id) : (ids (m.erase id)).Sublist (ids m) := by
  rw [erase_eq]; exact List.filter_sublist.map _

theorem nodup_erase {m : OMap} (id : Id) (h : (ids m).Nodup) : (ids (m.erase id)).Nodup :=
  (ids_erase_sublist m id).nodup h

theorem erase_comm (m : OMap) (a b : Id) : (m.erase a).erase b = (m.erase b).erase a := by
  simp only [erase_eq, List.filter_filter, Bool.and_comm]

theorem erase_idem (m : OMap) (a : Id) : (m.erase a).erase a = m.erase a := by
  simp [erase_eq, List.filter_filter]

theorem erase_append (a b : OMap) (id : Id) : (a ++ b).erase id = a.erase id ++ b.erase id := by
  simp [erase_eq]

theorem find_erase_ne {m : OMap} {id t : Id} (h : id ≠ t) : (m.erase t).find id = m.find id := by
  rw [find_eq, find_eq, erase_eq, List.find?_filter]
  congr; funext o; by_cases e : o.id = id <;> simp [e, h]

theorem find_erase_self (m : OMap) (id : Id) : (m.erase id).find id = none := by
  simp [find_eq, erase_eq]

theorem insert_fresh {m : OMap} {o : Order} (h : o.id ∉ ids m) : m.insert o = m ++ [o] := by
  rw [OMap.insert, erase_of_not_mem h]

theorem mem_insert {m : OMap} {o x : Order} : x ∈ m.insert o ↔ (x ∈ m ∧ x.id ≠ o.id) ∨ x = o := by
  simp [OMap.insert, mem_erase]

theorem ids_insert {m : OMap} {o : Order} {x : Id} : x ∈ ids (m.insert o) ↔ x ∈ ids m ∨ x = o.id := by
  simp only [OMap.insert, ids_append, List.mem_append, mem_ids_erase, ids_cons, ids_nil, List.mem_singleton]
  by_cases e : x = o.id <;> simp [e]

-- not in core
theorem nodup_snoc {α : Type} {l : List α} {a : α} : (l ++ [a]).Nodup ↔ l.Nodup ∧ a ∉ l := by
  rw [List.nodup_append]
  exact ⟨fun ⟨h, _, hd⟩ => ⟨h, fun ha => hd a ha a (List.mem_singleton_self a) rfl⟩,
    fun ⟨h, ha⟩ => ⟨h, by simp, fun x hx y hy e => ha (List.mem_singleton.1 hy ▸ e ▸ hx)⟩⟩

theorem nodup_insert {m : OMap} (o : Order) (h : (ids m).Nodup) : (ids (m.insert o)).Nodup := by
  rw [OMap.insert, ids_append]
  exact nodup_snoc.2 ⟨nodup_erase _ h, not_mem_ids_erase _ _⟩

theorem find_insert_same (m : OMap) (o : Order) : (m.insert o).find o.id = some o := by
  simp [OMap.insert, find_append, find_erase_self, OMap.find]

theorem find_insert_ne {m : OMap} {o : Order} {t : Id} (h : t ≠ o.id) : (m.insert o).find t = m.find t := by
  simp [OMap.insert, find_append, find_erase_ne h, OMap.find, Ne.symm h]

theorem erase_insert_comm (m : OMap) (o : Order) (t : Id) (h : t ≠ o.id) :
    (m.insert o).erase t = (m.erase t).insert o := by
  simp [OMap.insert, erase_append, erase_comm m o.id t, OMap.erase, Ne.symm h]

theorem erase_insert_same (m : OMap) (o : Order) : (m.insert o).erase o.id = m.erase o.id := by
  simp [OMap.insert, erase_append, erase_idem, OMap.erase]

theorem sumVis_append (a b : OMap) : sumVis (a ++ b) = sumVis a + sumVis b := by
  induction a with
  | nil => simp [sumVis]
  | cons x rest ih => simp [sumVis, ih]; omega

theorem tot_append (id : Id) (a b : OMap) : tot id (a ++ b) = tot id a + tot id b := by
  induction a with
  | nil => simp [tot]
  | cons x rest ih => simp [tot, ih]; omega

theorem tot_of_not_mem {m : OMap} {id : Id} (h : id ∉ ids m) : tot id m = 0 := by
  induction m with
  | nil => rfl
  | cons x rest ih =>
    simp at h
    have : x.id ≠ id := fun e => h.1 e.symm
    simp [tot, this, ih h.2]

theorem sum_insert_fresh {m : OMap} {o : Order} (h : o.id ∉ ids m) :
    sumVis (m.insert o) = sumVis m + o.vis ∧ sumHid (m.insert o) = sumHid m + o.hid ∧
      (m.insert o).length = m.length + 1 := by
  simp [insert_fresh h, sumVis_append, sumHid_append, sumVis, sumHid]

theorem tot_insert_fresh {m : OMap} {o : Order} (h : o.id ∉ ids m) (x : Id) :
    tot x (m.insert o) = tot x m + (if o.id = x then o.vis + o.hid else 0) := by
  simp [insert_fresh h, tot_append, tot]

theorem perm_ids {a b : List Order} (h : a.Perm b) : (ids a).Perm (ids b) := h.map _

theorem perm_sums {a b : List Order} (h : a.Perm b) :
    sumVis a = sumVis b ∧ sumHid a = sumHid b ∧ a.length = b.length := by
  induction h with
  | nil => simp
  | cons x _ ih => simp [sumVis, sumHid, ih.1, ih.2.1, ih.2.2]
  | swap x y l => simp [sumVis, sumHid]; omega
  | trans _ _ ih1 ih2 => exact ⟨ih1.1.trans ih2.1, ih1.2.1.trans ih2.2.1, ih1.2.2.trans ih2.2.2⟩

theorem find_perm {a b : OMap} (h : a.Perm b) (hn : (ids a).Nodup) (id : Id) :
    OMap.find a id = OMap.find b id := by
  have hnb : (ids b).Nodup := (perm_ids h).nodup_iff.1 hn
  cases hf : OMap.find a id with
  | none =>
    have : id ∉ ids b := fun hx => find_none.1 hf ((perm_ids h).mem_iff.2 hx)
    exact (find_none.2 this).symm
  | some o =>
    have hm := find_some hf
    have := find_of_mem hnb (h.mem_iff.1 hm.1)
    rw [hm.2] at this; exact this.symm

theorem perm_cons_erase {m : OMap} {id : Id} {o : Order} (hn : (ids m).Nodup) (hf : m.find id = some o) :
    (o :: m.erase id).Perm m := by
  induction m with
  | nil => simp [OMap.find] at hf
  | cons x rest ih =>
    simp at hn
    unfold OMap.find at hf
    unfold OMap.erase
    split at hf
    · rename_i hx
      simp at hf; subst hf
      have : id ∉ ids rest := hx ▸ hn.1
      simp [hx, erase_of_not_mem this]
    · rename_i hx
      simp only [hx, if_false]
      exact (List.Perm.swap x o _).trans ((ih hn.2 hf).cons x)

theorem insertByTs_perm (o : Order) (l : List Order) : (insertByTs o l).Perm (o :: l) := by
  induction l with
  | nil => exact List.Perm.refl _
  | cons x xs ih =>
    unfold insertByTs
    split
    · exact List.Perm.refl _
    · exact (ih.cons x).trans (List.Perm.swap o x xs)

theorem sortByTs_perm (l : List Order) : (sortByTs l).Perm l := by
  induction l with
  | nil => exact List.Perm.refl _
  | cons x xs ih => exact (insertByTs_perm x _).trans (ih.cons x)

theorem Level.listing_sums (l : Level) :
    sumVis l.listing = sumVis l.map ∧ sumHid l.listing = sumHid l.map ∧ l.listing.length = l.map.length :=
  perm_sums (sortByTs_perm l.map)

/-- with distinct ids, erasing the entry found under `id` takes exactly that entry out of the three sums
    (without: `sumHid_find_erase`, for the hidden sum only) -/
theorem erase_find {m : OMap} {id : Id} {o : Order} (hn : (ids m).Nodup) (hf : m.find id = some o) :
    sumVis (m.erase id) + o.vis = sumVis m ∧ sumHid (m.erase id) + o.hid = sumHid m ∧
      (m.erase id).length + 1 = m.length := by
  have := perm_sums (perm_cons_erase hn hf)
  simp only [sumVis, sumHid, List.length_cons] at this; omega

theorem tot_erase_self (m : OMap) (id : Id) : tot id (m.erase id) = 0 :=
  tot_of_not_mem (not_mem_ids_erase _ _)

theorem tot_erase_ne {m : OMap} {id x : Id} (h : x ≠ id) : tot x (m.erase id) = tot x m := by
  induction m with
  | nil => rfl
  | cons y rest ih =>
    unfold OMap.erase
    split
    · rename_i hy
      have : y.id ≠ x := fun e => h (e.symm.trans hy)
      simp [tot, this, ih]
    · simp [tot, ih]

theorem tot_find {m : OMap} {id : Id} {o : Order} (hn : (ids m).Nodup) (hf : m.find id = some o) :
    tot id m = o.vis + o.hid := by
  induction m with
  | nil => simp [OMap.find] at hf
  | cons x rest ih =>
    simp at hn
    unfold OMap.find at hf
    split at hf
    · rename_i hx
      simp at hf; subst hf
      have : id ∉ ids rest := hx ▸ hn.1
      simp [tot, hx, tot_of_not_mem this]
    · rename_i hx
      simp [tot, hx, ih hn.2 hf]

theorem sumVis_zero_of_all {l : List Order} (h : ∀ u ∈ l, u.vis = 0) : sumVis l = 0 := by
  induction l with
  | nil => rfl
  | cons x rest ih =>
    simp [sumVis, h x (by simp)]
    exact ih (fun u hu => h u (by simp [hu]))

theorem tot_singleton (id : Id) (u : Order) : tot id [u] = if u.id = id then u.vis + u.hid else 0 := by
  simp [tot]

theorem popLive_spec {m : OMap} {ts : List Id} {o : Order} {m' : OMap} {ts' : List Id}
    (h : popLive m ts = some (o, m', ts')) : m.find o.id = some o ∧ m' = m.erase o.id := by
  obtain ⟨_, t, _, _, hf, rfl⟩ := popLive_split h
  obtain rfl := (find_some hf).2
  exact ⟨hf, rfl⟩

theorem popLive_none {m : OMap} {ts : List Id} (h : popLive m ts = none) : ∀ x ∈ ts, x ∉ ids m := by
  induction ts with
  | nil => simp
  | cons t rest ih =>
    unfold popLive at h
    split at h
    · simp at h
    · rename_i hf
      intro x hx
      rcases List.mem_cons.1 hx with rfl | hx
      · exact find_none.1 hf
      · exact ih h x hx

/-- what a successful pop leaves of the tickets: every ticket of another live id, and nothing new -/
theorem popLive_tickets {m : OMap} {ts : List Id} {o m' ts'} (h : popLive m ts = some (o, m', ts')) :
    (∀ x, x ∈ ids m → x ≠ o.id → x ∈ ts → x ∈ ts') ∧ (∀ x, x ∈ ts' → x ∈ ts) := by
  obtain ⟨pre, t, rfl, hd, hf, rfl⟩ := popLive_split h
  obtain rfl := (find_some hf).2
  refine ⟨fun x hx hne hm => ?_, fun x hx => by simp [hx]⟩
  rcases List.mem_append.1 hm with hp | hp
  · exact absurd hx (find_none.1 (hd x hp))
  · exact (List.mem_cons.1 hp).resolve_left hne

theorem popLive_nodup {m : OMap} {ts : List Id} {o m' ts'} (h : popLive m ts = some (o, m', ts')) (hn : ts.Nodup) :
    ts'.Nodup ∧ o.id ∉ ts' := by
  obtain ⟨pre, t, rfl, _, hf, _⟩ := popLive_split h
  have := List.nodup_cons.1 (List.nodup_append.1 hn).2.1
  exact ⟨this.2, (find_some hf).2 ▸ this.1⟩

theorem covered_pop {m : OMap} {ts : List Id} {o m' ts'} (hp : popLive m ts = some (o, m', ts'))
    (hc : ∀ x ∈ ids m, x ∈ ts) : ∀ x ∈ ids m', x ∈ ts' := by
  obtain ⟨_, rfl⟩ := popLive_spec hp
  intro x hx
  have hm := mem_ids_erase.1 hx
  exact (popLive_tickets hp).1 x hm.1 hm.2 (hc x hm.1)

/-- `[]` is what the loop of `match_order` leaves of the ticket queue when `pop` fails; so the map is empty
    then (`ids_eq_nil`) -/
theorem covered_pop_none {m : OMap} {ts : List Id} (hp : popLive m ts = none) (hc : ∀ x ∈ ids m, x ∈ ts) :
    ∀ x ∈ ids m, x ∈ ([] : List Id) :=
  fun x hx => absurd (hc x hx) (fun h => popLive_none hp x h hx)

theorem ids_eq_nil {m : OMap} (h : ∀ x ∈ ids m, x ∈ ([] : List Id)) : m = [] := by
  cases m with
  | nil => rfl
  | cons o rest => exact absurd (h o.id (by simp)) (by simp)

theorem covered_insert {m : OMap} {ts : List Id} (o : Order) (hc : ∀ x ∈ ids m, x ∈ ts) :
    ∀ x ∈ ids (m.insert o), x ∈ ts ++ [o.id] := by
  intro x hx
  rcases ids_insert.1 hx with hx | rfl
  · exact List.mem_append_left _ (hc x hx)
  · simp

theorem requeueAside_mem (aside : List Order) :
    ∀ (m : OMap) (ts : List Id) (x : Order), x ∈ (requeueAside m ts aside).1 → x ∈ m ∨ x ∈ aside := by
  induction aside with
  | nil => intro m ts x hx; exact Or.inl hx
  | cons o rest ih =>
    intro m ts x hx
    simp only [requeueAside] at hx
    rcases ih _ _ x hx with h | h
    · rcases mem_insert.1 h with h | rfl
      · exact Or.inl h.1
      · exact Or.inr (by simp)
    · exact Or.inr (by simp [h])

theorem requeueAside_tickets (aside : List Order) :
    ∀ (m : OMap) (ts : List Id), (requeueAside m ts aside).2 = ts ++ ids aside := by
  induction aside with
  | nil => intro m ts; simp [requeueAside]
  | cons o rest ih => intro m ts; simp [requeueAside, ih]

/-- the step of every induction over a list of orders pushed one by one: ids that are distinct and not in
    `l` (the map's ids, or the tickets) are, but for the first, not in `l` with the first appended -/
theorem fresh_tail {l : List Id} {a : Id} {rest : List Id} (hd : ∀ x ∈ a :: rest, x ∉ l) (hn : a ∉ rest) :
    ∀ x ∈ rest, x ∉ l ++ [a] := by
  intro x hx; rw [List.mem_append, not_or]
  exact ⟨hd x (by simp [hx]), fun h => hn (List.mem_singleton.1 h ▸ hx)⟩

theorem requeueAside_eq (aside : List Order) : ∀ (m : OMap) (ts : List Id),
    (∀ x ∈ ids aside, x ∉ ids m) → (ids aside).Nodup → requeueAside m ts aside = (m ++ aside, ts ++ ids aside) := by
  induction aside with
  | nil => intro m ts _ _; simp [requeueAside]
  | cons o rest ih =>
    intro m ts hd hn
    rw [ids_cons, List.nodup_cons] at hn
    rw [requeueAside, insert_fresh (hd _ (by simp)), ih _ _ (by rw [ids_append]; exact fresh_tail hd hn.1) hn.2]
    simp

/-! counting occurrences of an id among the keys (ownership in the interleaving model is a count) -/

theorem count_ids_erase_le (m : OMap) (id x : Id) : (ids (m.erase id)).count x ≤ (ids m).count x :=
  (ids_erase_sublist m id).count_le x

theorem count_ids_insert_le (m : OMap) (o : Order) (x : Id) :
    (ids (m.insert o)).count x ≤ (ids m).count x + (if o.id = x then 1 else 0) := by
  have := count_ids_erase_le m o.id x
  simp only [OMap.insert, ids_append, ids_cons, ids_nil, List.count_append, List.count_cons, List.count_nil]
  by_cases h : o.id = x
  · subst h; simp; omega
  · simp [h]; omega

theorem count_ids_erase_found {m : OMap} {id : Id} {o : Order} (hf : m.find id = some o) (x : Id) :
    (ids (m.erase id)).count x + (if id = x then 1 else 0) ≤ (ids m).count x := by
  by_cases h : id = x
  · subst h
    have h0 : (ids (m.erase id)).count id = 0 := List.count_eq_zero.2 (not_mem_ids_erase _ _)
    have h1 : 0 < (ids m).count id := List.count_pos_iff.2 (mem_ids_of_find hf)
    rw [h0, if_pos rfl]; exact h1
  · have := count_ids_erase_le m id x; simp [h]; omega

end PLV
