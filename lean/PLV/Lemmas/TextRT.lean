/-
  Helper lemmas for C16 (and C17, C09): round trips of the primitive text forms — numbers, ids,
  small enums — and the structure lemmas of `splitOn` / `joinSep` on which the record codecs rest.
-/
import PLV.Model.Text

namespace PLV.Text
open PLV

theorem lit_inj {a b : String} : lit a = lit b ↔ a = b := by simp [lit, String.toList_inj]

/-- a string literal `"abc"` is by definition `String.ofList ['a', 'b', 'c']`, so its characters are had by a theorem;
    evaluating `String.toList` on it goes through the UTF-8 bytes (six times the work in the kernel) -/
theorem lit_ofList (l : List Char) : lit (String.ofList l) = l := String.toList_ofList

theorem splitOn_of_not_mem {c : Char} {s : Str} (h : c ∉ s) : splitOn c s = [s] := by
  induction s with
  | nil => rfl
  | cons x rest ih =>
    simp at h
    have hx : ¬ x = c := fun e => h.1 e.symm
    simp [splitOn, hx, ih h.2]

theorem splitOn_append {c : Char} {a b : Str} (h : c ∉ a) : splitOn c (a ++ c :: b) = a :: splitOn c b := by
  induction a with
  | nil => simp [splitOn]
  | cons x rest ih =>
    simp at h
    have hx : ¬ x = c := fun e => h.1 e.symm
    simp [splitOn, hx, ih h.2]

theorem showNat_digits (n : Nat) : ∀ c ∈ showNat n, c.isDigit = true :=
  fun _ hc => Nat.isDigit_of_mem_toDigits (by decide) (by decide) hc

theorem showNat_ne_none (a : Nat) : showNat a ≠ lit "None" := fun e =>
  absurd (showNat_digits a 'N' (e ▸ by decide)) (by decide)

theorem showNat_ne_nil (n : Nat) : showNat n ≠ [] := Nat.toDigits_ne_nil

theorem ofDigitChars_showNat (n : Nat) : Nat.ofDigitChars 10 (showNat n) 0 = n := by
  simp only [showNat, Nat.ofDigitChars_ten_toDigits]

theorem digitsVal_showNat (n : Nat) : digitsVal (showNat n) = some n := by
  unfold digitsVal
  rw [if_pos (List.all_eq_true.2 (showNat_digits n)), ofDigitChars_showNat]

/-! A character class (`Char.isDigit`, `idChar` below, `plainChar` in TextRecords, `recChar` in TextLists) is used in one
    way: a separator lies outside the class (`by decide`), so it differs from every character of the class and occurs in
    no string made of them. -/
theorem ne_of_class {p : Char → Bool} {c d : Char} (hc : p c = true) (hd : p d = false) : c ≠ d :=
  fun e => by rw [e, hd] at hc; cases hc

theorem not_mem_of_class {p : Char → Bool} {s : Str} (h : ∀ c ∈ s, p c = true) {d : Char} (hd : p d = false) : d ∉ s :=
  fun hm => ne_of_class (h d hm) hd rfl

theorem isDigit_ne {c d : Char} (hc : c.isDigit = true) (hd : d.isDigit = false) : c ≠ d := ne_of_class hc hd

theorem stripPlus_cons {c : Char} {rest : Str} (h : c ≠ '+') : stripPlus (c :: rest) = c :: rest := by
  unfold stripPlus
  split
  · rename_i r heq; simp at heq; exact absurd heq.1 h
  · rfl

theorem showNat_no (n : Nat) (c : Char) (hc : c.isDigit = false) : c ∉ showNat n := not_mem_of_class (showNat_digits n) hc

theorem showNat_cons (n : Nat) : ∃ d ds, showNat n = d :: ds ∧ d.isDigit = true := by
  cases h : showNat n with
  | nil => exact absurd h (showNat_ne_nil n)
  | cons d ds => exact ⟨d, ds, rfl, showNat_digits n d (h ▸ List.mem_cons_self ..)⟩

theorem showNat_head (n : Nat) : (showNat n).head? = some '0' → n = 0 := by
  induction n using Nat.strongRecOn with
  | _ n ih =>
    unfold showNat
    rw [Nat.toDigits_eq_if (by decide)]
    split
    · rename_i h
      simp only [List.head?_cons, Option.some.injEq, Nat.digitChar_eq_zero]
      exact id
    · rename_i h
      have hlt : n / 10 < n := Nat.div_lt_self (by omega) (by decide)
      have hne : Nat.toDigits 10 (n / 10) ≠ [] := Nat.toDigits_ne_nil
      intro hh
      cases hd : Nat.toDigits 10 (n / 10) with
      | nil => exact absurd hd hne
      | cons c r =>
        rw [hd] at hh
        simp only [List.cons_append, List.head?_cons, Option.some.injEq] at hh
        have := ih (n / 10) hlt (by unfold showNat; rw [hd, hh]; rfl)
        omega

theorem parseU64_showNat {n : Nat} (h : n < W) : parseU64 (showNat n) = some n := by
  obtain ⟨d, ds, hs, hd⟩ := showNat_cons n
  have hv := digitsVal_showNat n
  rw [hs] at hv
  simp only [parseU64, hs, stripPlus_cons (isDigit_ne hd (by decide)), hv, h, List.isEmpty_cons, Bool.false_eq_true, if_false, if_true]

theorem parseI64_showInt {i : Int} (hlo : -9223372036854775808 ≤ i) (hhi : i < 9223372036854775808) :
    parseI64 (showInt i) = some i := by
  cases i with
  | ofNat n =>
    obtain ⟨d, ds, hs, hd⟩ := showNat_cons n
    have hv := digitsVal_showNat n
    have hlt : n < 9223372036854775808 := by have : (Int.ofNat n) = (n : Int) := rfl; omega
    rw [hs] at hv
    simp only [showInt, hs]
    unfold parseI64
    split
    · rename_i r heq; simp at heq; exact absurd heq.1 (isDigit_ne hd (by decide))
    · simp only [stripPlus_cons (isDigit_ne hd (by decide)), hv, hlt, List.isEmpty_cons, Bool.false_eq_true, if_false, if_true]
      rfl
  | negSucc n =>
    obtain ⟨d, ds, hs, _⟩ := showNat_cons (n + 1)
    have hv := digitsVal_showNat (n + 1)
    have hle : n + 1 ≤ 9223372036854775808 := by have := Int.negSucc_eq n; omega
    rw [hs] at hv
    simp only [showInt, parseI64, hs, hv, hle, List.isEmpty_cons, Bool.false_eq_true, if_false, if_true]
    rw [Int.negSucc_eq]; simp

/-- `fx k n` is `n` in `k` digits `dg` of base `b`, most significant first -/
structure Fixed (b : Nat) (dg : Nat → Char) (fx : Nat → Nat → Str) : Prop where
  pos : 0 < b
  zero : ∀ n, fx 0 n = []
  succ : ∀ k n, fx (k + 1) n = fx k (n / b) ++ [dg (n % b)]

theorem hexFixed_fixed : Fixed 16 hexDigit hexFixed := ⟨by decide, fun _ => rfl, fun _ _ => rfl⟩
theorem b32Fixed_fixed : Fixed 32 (crockford.getD · '0') b32Fixed := ⟨by decide, fun _ => rfl, fun _ _ => rfl⟩

section
variable {b : Nat} {dg : Nat → Char} {fx : Nat → Nat → Str} (h : Fixed b dg fx)
include h

theorem Fixed.length (k n : Nat) : (fx k n).length = k := by
  induction k generalizing n with
  | zero => rw [h.zero]; rfl
  | succ k ih => rw [h.succ, List.length_append, ih]; rfl

theorem Fixed.chars {p : Char → Bool} (hp : ∀ d, d < b → p (dg d) = true) (k n : Nat) : ∀ c ∈ fx k n, p c = true := by
  induction k generalizing n with
  | zero => rw [h.zero]; exact fun _ h => nomatch h
  | succ k ih =>
    intro c hc
    rw [h.succ, List.mem_append, List.mem_singleton] at hc
    rcases hc with hc | rfl
    · exact ih _ c hc
    · exact hp _ (Nat.mod_lt _ h.pos)

/-- reading the digits back by Horner's rule gives the number, cut to `k` digits: `vl` inverts `dg`, and the step `f` of
    the fold does what Horner's rule asks wherever `vl` gives a value. The two are kept apart so that no digit stands
    inside a `match` when the lemma is used: the kernel compares two `match`es by unfolding them and evaluating the
    discriminant, which for `b32Val` evaluates the `crockford` literal, slowly. -/
theorem Fixed.value {vl : Char → Option Nat} (hv : ∀ d, d < b → vl (dg d) = some d)
    {f : Option Nat → Char → Option Nat} (hf : ∀ a c v, vl c = some v → f (some a) c = some (a * b + v)) (k n : Nat) :
    (fx k n).foldl f (some 0) = some (n % b ^ k) := by
  induction k generalizing n with
  | zero => rw [h.zero, Nat.pow_zero, Nat.mod_one]; rfl
  | succ k ih =>
    rw [h.succ, List.foldl_append, ih, List.foldl_cons, List.foldl_nil, hf _ _ _ (hv _ (Nat.mod_lt _ h.pos)),
      Nat.pow_succ, Nat.mul_comm (b ^ k) b, Nat.mod_mul, Nat.mul_comm b, Nat.add_comm]
end

theorem hexFixed_length (k n : Nat) : (hexFixed k n).length = k := hexFixed_fixed.length k n

theorem hexVal_hexDigit : ∀ d, d < 16 → hexVal (hexDigit d) = some d := by decide

theorem foldl_hex_none (s : Str) :
    s.foldl (fun acc c => match acc, hexVal c with | some a, some d => some (a * 16 + d) | _, _ => none) none = none := by
  induction s with
  | nil => rfl
  | cons x rest ih => simp [List.foldl, ih]

theorem hexValue_eq_foldl (s : Str) :
    hexValue s = s.foldl (fun acc c => match acc, hexVal c with | some a, some d => some (a * 16 + d) | _, _ => none) (some 0) := by
  cases s <;> rfl

theorem hexValue_snoc (s : Str) (c : Char) :
    hexValue (s ++ [c]) = (match hexValue s, hexVal c with | some a, some d => some (a * 16 + d) | _, _ => none) := by
  rw [hexValue_eq_foldl, hexValue_eq_foldl, List.foldl_append]
  rfl

theorem hexValue_hexFixed (k n : Nat) : hexValue (hexFixed k n) = some (n % 16 ^ k) :=
  (hexValue_eq_foldl _).trans (hexFixed_fixed.value hexVal_hexDigit (fun a c v h => by simp only [h]) k n)

theorem b32Fixed_length (k n : Nat) : (b32Fixed k n).length = k := b32Fixed_fixed.length k n

theorem b32Val_digit : ∀ d, d < 32 → b32Val (crockford.getD d '0') = some d := by
  unfold b32Val crockford; rw [lit_ofList]; decide

theorem b32Value_snoc (s : Str) (c : Char) :
    b32Value (s ++ [c]) = (match b32Value s, b32Val c with | some a, some d => some (a * 32 + d) | _, _ => none) := by
  unfold b32Value
  rw [List.foldl_append]
  rfl

theorem b32Value_b32Fixed (k n : Nat) : b32Value (b32Fixed k n) = some (n % 32 ^ k) :=
  b32Fixed_fixed.value b32Val_digit (fun a c v h => by simp only [h]) k n

/-- reading back, element by element, a list printed element by element (text and JSON lists alike) -/
theorem mapM_show {m : Type → Type} [Monad m] [LawfulMonad m] {α β : Type} (sh : α → β) (parse : β → m α) (l : List α)
    (h : ∀ x ∈ l, parse (sh x) = pure x) : (l.map sh).mapM parse = pure l := by
  induction l with
  | nil => simp
  | cons x rest ih =>
    simp [h x (List.mem_cons_self ..), ih fun y hy => h y (List.mem_cons_of_mem _ hy)]

theorem mem_joinSep {c : Char} {sep : Str} {l : List Str} (h : c ∈ joinSep sep l) : c ∈ sep ∨ ∃ x ∈ l, c ∈ x := by
  fun_induction joinSep sep l with
  | case1 => simp at h
  | case2 x => exact .inr ⟨x, by simp, h⟩
  | case3 x rest _ ih =>
    simp only [List.mem_append] at h
    rcases h with (h | h) | h
    · exact .inr ⟨x, by simp, h⟩
    · exact .inl h
    · exact (ih h).imp_right fun ⟨z, hz, hc⟩ => ⟨z, List.mem_cons_of_mem _ hz, hc⟩

theorem splitOn_joinSep (c : Char) (ps : List Str) (hne : ps ≠ []) (h : ∀ p ∈ ps, c ∉ p) :
    splitOn c (joinSep [c] ps) = ps := by
  fun_induction joinSep [c] ps with
  | case1 => exact absurd rfl hne
  | case2 p => exact splitOn_of_not_mem (h p (by simp))
  | case3 p rest hr ih =>
    rw [List.append_assoc, List.singleton_append, splitOn_append (h p (by simp)),
      ih (fun e => hr e) fun x hx => h x (List.mem_cons_of_mem _ hx)]

theorem joinSep_length_two (sep a b : Str) : joinSep sep [a, b] = a ++ sep ++ b := by simp [joinSep]

/-- an id / number character: alphanumeric or `-` (never one of the structural characters) -/
def idChar (c : Char) : Bool := c.isAlphanum || c = '-'

/-- id characters are ASCII, and none is a backslash or below `-` (so none is a quote) -/
theorem idChar_range {c : Char} (h : idChar c = true) : 45 ≤ c.toNat ∧ c.toNat < 128 ∧ c ≠ '\\' := by
  simp only [idChar, Char.isAlphanum, Char.isAlpha, Char.isUpper, Char.isLower, Char.isDigit, Bool.or_eq_true,
    Bool.and_eq_true, decide_eq_true_eq, UInt32.le_iff_toNat_le] at h
  have hv : c.toNat = c.val.toNat := rfl
  have hr : 45 ≤ c.toNat ∧ c.toNat < 128 := by
    rcases h with ((⟨h1, h2⟩ | ⟨h1, h2⟩) | ⟨h1, h2⟩) | h
    all_goals first | (simp at h1 h2; omega) | (subst h; decide)
  refine ⟨hr.1, hr.2, ?_⟩
  rintro rfl
  revert h; decide

theorem isAscii_of (s : Str) (h : ∀ c ∈ s, c.toNat < 128) : isAscii s = true :=
  List.all_eq_true.2 fun c hc => decide_eq_true (h c hc)

theorem isAscii_of_id {s : Str} (h : ∀ c ∈ s, idChar c = true) : isAscii s = true :=
  isAscii_of s fun c hc => (idChar_range (h c hc)).2.1

theorem idChar_of_alnum {c : Char} (h : c.isAlphanum = true) : idChar c = true := by simp [idChar, h]

theorem hexFixed_alnum (k n : Nat) : ∀ c ∈ hexFixed k n, c.isAlphanum = true := hexFixed_fixed.chars (by decide) k n

theorem b32Fixed_alnum (k n : Nat) : ∀ c ∈ b32Fixed k n, c.isAlphanum = true :=
  b32Fixed_fixed.chars (by unfold crockford; rw [lit_ofList]; decide) k n

theorem showNat_chars (n : Nat) : ∀ c ∈ showNat n, idChar c = true :=
  fun c hc => idChar_of_alnum (by simp [Char.isAlphanum, showNat_digits n c hc])

theorem showUuid_length (v : Nat) : (showUuid v).length = 36 := by
  simp [showUuid, joinSep, hexFixed_length]

theorem showUuid_chars (v : Nat) : ∀ c ∈ showUuid v, idChar c = true := by
  intro c hc
  rcases mem_joinSep hc with hc | ⟨g, hg, hc⟩
  · rw [List.mem_singleton.1 hc]; decide
  · simp only [List.mem_cons, List.not_mem_nil, or_false] at hg
    rcases hg with h | h | h | h | h <;> exact idChar_of_alnum (hexFixed_alnum _ _ c (h ▸ hc))

/-- the low `q * r` of `y` from its low `q` and the `r` above -/
theorem mod_glue (y q r : Nat) : y / q % r * q + y % q = y % (q * r) := by
  rw [Nat.mod_mul, Nat.mul_comm]; omega

theorem parseHyphenated_showUuid {v : Nat} (h : v < 2 ^ 128) : parseHyphenated (showUuid v) = some v := by
  have dash (k n : Nat) : '-' ∉ hexFixed k n := fun hm => absurd (hexFixed_alnum k n _ hm) (by decide)
  unfold parseHyphenated showUuid
  rw [splitOn_joinSep '-' _ (List.cons_ne_nil _ _) (by simp [dash])]
  simp only [hexFixed_length, and_self, if_true, hexValue_hexFixed]
  -- the five groups are glued from the most significant down (`omega` closes the goal too, several times more slowly)
  have a := mod_glue (v / 16 ^ 20) (16 ^ 4) (16 ^ 8)
  have b := mod_glue (v / 16 ^ 16) (16 ^ 4) (16 ^ 12)
  have c := mod_glue (v / 16 ^ 12) (16 ^ 4) (16 ^ 16)
  have d := mod_glue v (16 ^ 12) (16 ^ 20)
  simp only [Nat.div_div_eq_div_mul] at a b c
  rw [a, b, c, d, Nat.mod_eq_of_lt h]

theorem parseUuid_showUuid {v : Nat} (h : v < 2 ^ 128) : parseUuid (showUuid v) = some v := by
  unfold parseUuid
  simp [isAscii_of_id (showUuid_chars v), showUuid_length, parseHyphenated_showUuid h]

theorem showUlid_length (v : Nat) : (showUlid v).length = 26 := b32Fixed_length 26 v

theorem showId_chars (i : Id) : ∀ c ∈ showId i, idChar c = true := by
  intro c hc
  unfold showId at hc
  split at hc
  · exact idChar_of_alnum (b32Fixed_alnum 26 i.val c hc)
  · exact showUuid_chars i.val c hc

theorem parseUlid_showUlid {v : Nat} (h : v < 2 ^ 128) : parseUlid (showUlid v) = some v := by
  unfold parseUlid
  have hcond : ¬ ((!isAscii (showUlid v)) = true ∨ (showUlid v).length ≠ 26) := by
    simp [isAscii_of_id (s := showUlid v) fun c hc => idChar_of_alnum (b32Fixed_alnum 26 v c hc), showUlid_length]
  rw [if_neg hcond, showUlid, b32Value_b32Fixed, Option.map_some,
    Nat.mod_eq_of_lt (Nat.lt_trans h (by decide)), Nat.mod_eq_of_lt h]

theorem parseUuid_showUlid (v : Nat) : parseUuid (showUlid v) = none := by
  unfold parseUuid
  simp [showUlid_length]

-- by `rw`, not `simp`: a rewrite under the `match` of `parseId` by congruence makes the kernel compare two `match`es,
-- which it does by unfolding them and evaluating the discriminant, `parseUuid (showUlid v)`
theorem parseId_showId (i : Id) (h : i.val < 2 ^ 128) : parseId (showId i) = some i := by
  obtain ⟨u, v⟩ := i
  unfold parseId showId
  cases u
  · rw [if_neg Bool.false_ne_true, parseUuid_showUuid h]
  · rw [if_pos rfl, parseUuid_showUlid, parseUlid_showUlid h]; rfl

theorem upperChar_ofNat_digit : ∀ n, n < 58 → 48 ≤ n → upperChar (Char.ofNat n) = [Char.ofNat n] := by decide

theorem upperChar_digit {c : Char} (h : c.isDigit = true) : upperChar c = [c] := by
  have h1 : 48 ≤ c.toNat ∧ c.toNat ≤ 57 := Char.isDigit_iff_toNat.1 h
  have := upperChar_ofNat_digit c.toNat (by omega) h1.1
  rwa [Char.ofNat_toNat] at this

theorem toUpper_digits {s : Str} (h : ∀ c ∈ s, c.isDigit = true) : toUpper s = s := by
  induction s with
  | nil => rfl
  | cons c rest ih =>
    simp only [toUpper, List.flatMap_cons, upperChar_digit (h c (by simp))]
    have := ih (fun x hx => h x (by simp [hx]))
    simp only [toUpper] at this
    rw [this]; rfl

theorem toUpper_append (a b : Str) : toUpper (a ++ b) = toUpper a ++ toUpper b := by
  simp [toUpper, List.flatMap_append]

theorem parseSide_showSide (s : Side) : parseSide (showSide s) = some s := by cases s <;> decide

-- the spellings are told apart as strings (`lit_inj`), not character by character
theorem parsePeg_showPeg (p : PegRef) : parsePeg (showPeg p) = some p ∧ parsePegExact (showPeg p) = some p := by
  cases p <;> simp [showPeg, parsePeg, parsePegExact, lit_inj]

theorem parseTif_showTif (t : Tif) (h : ∀ n, t = .gtd n → n < W) : parseTif (showTif t) = some t := by
  cases t with
  | gtc => decide
  | ioc => decide
  | fok => decide
  | day => decide
  | gtd n =>
    have hn := h n rfl
    have hu : toUpper (showTif (.gtd n)) = lit "GTD-" ++ showNat n := by
      simp only [showTif, toUpper_append, toUpper_digits (showNat_digits n)]
      rfl
    unfold parseTif
    simp only [hu]
    have hsplit : splitOn '-' (lit "GTD-" ++ showNat n) = [lit "GTD", showNat n] := by
      have : lit "GTD-" ++ showNat n = lit "GTD" ++ '-' :: showNat n := by simp [lit]
      rw [this, splitOn_append (by decide), splitOn_of_not_mem (showNat_no n '-' (by decide))]
    have hl : ∀ w : Str, w.length = 3 → ¬ (lit "GTD-" ++ showNat n = w) := fun w hw e => by
      have := congrArg List.length e
      simp [hw, lit] at this
    have e5 : (lit "GTD-" ++ showNat n).take 4 = lit "GTD-" := by simp [lit]
    simp only [if_neg (hl (lit "GTC") rfl), if_neg (hl (lit "IOC") rfl), if_neg (hl (lit "FOK") rfl), if_neg (hl (lit "DAY") rfl),
      e5, if_true, hsplit, parseU64_showNat hn, Option.map_some]

end PLV.Text
