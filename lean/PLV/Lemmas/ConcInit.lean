/-
  From a well-formed sequential level and an admissible program to the concurrent invariant, and
  what the invariant says once every thread has returned (helper lemmas for C03 / C08 / C12).
-/
import PLV.Lemmas.ConcBound
import PLV.Lemmas.ConcCover
import PLV.Lemmas.LevelInv

namespace PLV.Conc
open PLV

/-- ids the program's adds will bring -/
def progIds (progs : List (List COp)) : List Id := progs.flatMap (fun ops => ops.flatMap opHeld)

/-- admissibility of a program on a level (the properties' quantifier): the adds use ids not
    otherwise present and every match asks for at least 1. That everything supplied fits in 64 bits
    (`supplyQ`, `supplyC < W`) is a separate hypothesis of the theorems that need it. -/
structure ProgAdm (l : Level) (progs : List (List COp)) : Prop where
  fresh : (ids l.map ++ progIds progs).Nodup
  ok : ∀ ops ∈ progs, ∀ op ∈ ops, OpOk op

/-- total quantity / number of orders the program can ever supply, on top of what rests -/
def supplyQ (l : Level) (progs : List (List COp)) : Nat :=
  sumVis l.map + sumHid l.map + sumT (fun t => sumOps opPend t.todo) (progs.map (fun ops => ({ todo := ops } : Thread)))
def supplyC (l : Level) (progs : List (List COp)) : Nat :=
  l.map.length + sumT (fun t => sumOps opPendC t.todo) (progs.map (fun ops => ({ todo := ops } : Thread)))

theorem count_flatMap_threads (x : Id) (progs : List (List COp)) :
    sumT (fun t => (theld t).count x) (progs.map (fun ops => ({ todo := ops } : Thread))) = (progIds progs).count x := by
  induction progs with
  | nil => rfl
  | cons ops rest ih =>
    have h0 : theld ({ todo := ops } : Thread) = ops.flatMap opHeld := by simp [theld, held]
    simp only [List.map_cons, sumT, h0, ih, progIds, List.flatMap_cons, List.count_append]

theorem init_inv {l : Level} (h : l.Inv) (g : Nat) {progs : List (List COp)} (ha : ProgAdm l progs) :
    BInv (supplyQ l progs) (supplyC l progs) (Cfg.init l g progs) := by
  have hidle := init_idle l g progs
  refine ⟨⟨?_, ?_, ?_, ?_, ?_⟩, ?_, ?_, ?_⟩
  · intro x
    simp only [Cfg.init, Shared.ofLevel]
    rw [count_flatMap_threads]
    have := (List.nodup_iff_count.1 ha.fresh) x
    simpa [List.count_append] using this
  · intro t ht
    obtain ⟨ops, hops, rfl⟩ := List.mem_map.1 ht
    exact ⟨trivial, fun op hop => ha.ok ops hops op hop⟩
  · rw [sumT_idle rfl hidle]; exact congrArg (· % W) h.vis
  · rw [sumT_idle rfl hidle]; exact congrArg (· % W) h.hid
  · rw [sumT_idle rfl hidle]; exact congrArg (· % W) h.cnt
  · simp only [potQ, tpend, sumT_add, sumT_idle (m := cV) rfl hidle, sumT_idle (m := cH) rfl hidle,
      sumT_idle (m := pend) rfl hidle, Nat.zero_add]
    exact Nat.le_refl _
  · simp only [potC, tpendC, sumT_add, sumT_idle (m := cC) rfl hidle, sumT_idle (m := pendC) rfl hidle, Nat.zero_add]
    exact Nat.le_refl _
  · have := h.vis; have := h.hid; have := h.cnt; have := h.fits; have := h.cfits
    simp only [Cfg.init, Shared.ofLevel]
    refine ⟨by omega, by omega, by omega⟩

/-- **a quiescent configuration is a well-formed level**, whatever execution led to it: every thread
    has returned, so nobody holds a credit or owes a ticket; the counters are the sums over the map
    and every key has its ticket -/
theorem quiescent_inv {Q N : Nat} {c : Cfg} (hb : BInv Q N c) (hQ : Q < W) (hN : N < W) (hcov : Cover c)
    (hd : allDone c = true) : c.sh.level.Inv := by
  have hi := fun t ht => (done_idle hd t ht).1
  obtain ⟨e1, e2, e3, _⟩ := hb.exact hQ hN
  rw [sumT_idle rfl hi] at e1 e2 e3
  have hq := hb.hQ; have hn := hb.hC
  simp only [potQ, potC] at hq hn
  refine ⟨hb.inv.nodup, fun x hx => ?_, e1, e2, e3, ?_, ?_⟩
  · have := (cover_iff c).1 hcov x hx
    rw [sumT_idle (m := fun pc => (pendingTk pc).count x) rfl hi] at this
    exact List.count_pos_iff.1 this
  · show sumVis c.sh.map + sumHid c.sh.map < W; omega
  · show c.sh.map.length < W; omega

theorem cover_init {l : Level} (h : l.Inv) (g : Nat) (progs : List (List COp)) : Cover (Cfg.init l g progs) :=
  fun x hx => Or.inl (h.covered x hx)

/-- the quiescent configuration a schedule reaches from a well-formed level stands for a well-formed level -/
theorem quiescent_run {l : Level} (hl : l.Inv) (g : Nat) {progs : List (List COp)} (ha : ProgAdm l progs)
    (hQ : supplyQ l progs < W) (hN : supplyC l progs < W) (sched : List Nat)
    (hd : allDone (run (Cfg.init l g progs) sched) = true) : (run (Cfg.init l g progs) sched).sh.level.Inv :=
  quiescent_inv ((init_inv hl g ha).run sched) hQ hN ((cover_init hl g progs).run sched) hd

end PLV.Conc
