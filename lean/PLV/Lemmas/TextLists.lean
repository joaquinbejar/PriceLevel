/-
  Lemmas for the list-carrying text encodings: which characters a printed record can contain
  (so where the list separators are), prefix / suffix bookkeeping, the three list splitters on printed elements.
-/
import PLV.Lemmas.TextRecords

namespace PLV.Text
open PLV

/-- the characters of a printed record: plain field characters and the three structural ones -/
def recChar (c : Char) : Bool := plainChar c || c = ':' || c = '=' || c = ';'

def RecChars (s : Str) : Prop := ∀ c ∈ s, recChar c = true

theorem RecChars.of_plain {s : Str} (h : Plain s) : RecChars s := fun c hc => by simp [recChar, h c hc]

theorem RecChars.append {a b : Str} (ha : RecChars a) (hb : RecChars b) : RecChars (a ++ b) :=
  List.forall_mem_append.2 ⟨ha, hb⟩

theorem RecChars.no {s : Str} (h : RecChars s) {c : Char} (hc : recChar c = false) : c ∉ s := not_mem_of_class h hc

theorem recChars_joinSemi (l : List Str) (h : ∀ f ∈ l, RecChars f) : RecChars (joinSep [';'] l) := fun c hc => by
  rcases mem_joinSep hc with hc | ⟨f, hf, hc⟩
  · rw [List.mem_singleton.1 hc]; decide
  · exact h f hf c hc

theorem recChars_kv (k : String) (v : Str) (hk : Plain (lit k)) (hv : Plain v) : RecChars (kv k v) :=
  ((RecChars.of_plain hk).append (by unfold RecChars; decide)).append (RecChars.of_plain hv)

theorem recChars_record (name : String) (fields : List Str) (hn : Plain (lit name)) (h : ∀ f ∈ fields, RecChars f) :
    RecChars (record name fields) :=
  ((RecChars.of_plain hn).append (by unfold RecChars; decide)).append (recChars_joinSemi fields h)

theorem KVs.recChars {fs ps} (h : KVs fs ps) : ∀ f ∈ fs, RecChars f := fun f hf => by
  obtain ⟨k, v, rfl, hk, hv⟩ := h.mem hf; exact recChars_kv k v hk hv

theorem Rec.chars {name : String} {fs ps} (h : Rec name fs ps) : RecChars (record name fs) :=
  recChars_record name fs h.name h.fields.recChars

/-- both uses of a printed record: it is clean, and a parser that looks only at the `:`-split of its input and
    at the parsed fields reads it back (`P`: what the round trips of its fields need) -/
theorem Rec.chars_rt {α : Type} {parse : Str → α} {name : String} {fs ps} {r : α} {P : Prop} (hr : Rec name fs ps)
    (h : P → ∀ s body, Text.splitOn ':' s = [lit name, body] → parseFields body = ps → parse s = r) :
    RecChars (record name fs) ∧ (P → parse (record name fs) = r) :=
  ⟨hr.chars, fun hp => record_rt hr (h hp)⟩

theorem record_ne_nil (name : String) (fields : List Str) : record name fields ≠ [] := by
  unfold record; simp

theorem startsWith_append (p x : Str) : startsWith p (p ++ x) = true := by
  simp [startsWith]

theorem endsWith_append (x : Str) (c : Char) : endsWith [c] (x ++ [c]) = true := by
  simp [endsWith]

theorem startsWith_wrapped (p body rest : Str) : startsWith p (p ++ body ++ rest) = true := by
  rw [List.append_assoc]; exact startsWith_append _ _

/-- all fields of a record are made of record characters (a structure, so that `apply` never
    unfolds it while looking for a match) -/
structure AllRec (l : List Str) : Prop where
  all : ∀ f ∈ l, RecChars f

theorem allRec_append {a b : List Str} (ha : AllRec a) (hb : AllRec b) : AllRec (a ++ b) :=
  ⟨List.forall_mem_append.2 ⟨ha.all, hb.all⟩⟩

theorem middle (p body : Str) (c : Char) :
    ((p ++ body ++ [c]).drop p.length).take ((p ++ body ++ [c]).length - p.length - 1) = body := by
  simp [List.append_assoc, List.take_left']

theorem take_drop_wrapped (p body : Str) (c : Char) {i j : Nat} (hi : p.length = i) (hj : body.length = j) :
    ((p ++ body ++ [c]).drop i).take j = body := by
  rw [← hi, ← hj, List.append_assoc, List.drop_left, List.take_left]

/-- the elements of a printed list: record characters only — no comma, no bracket — and not empty -/
def Elems (ss : List Str) : Prop := ∀ s ∈ ss, RecChars s ∧ s ≠ []

theorem Elems.map {α : Type} {sh : α → Str} (h : ∀ x, RecChars (sh x) ∧ sh x ≠ []) (l : List α) : Elems (l.map sh) := by
  intro s hs; obtain ⟨x, _, rfl⟩ := List.mem_map.1 hs; exact h x

theorem Elems.tail {s : Str} {ss : List Str} (h : Elems (s :: ss)) : Elems ss :=
  fun x hx => h x (List.mem_cons_of_mem _ hx)

theorem joinSep_ne_nil (sep : Str) {l : List Str} (hne : l ≠ []) (h : ∀ x ∈ l, x ≠ []) : joinSep sep l ≠ [] := by
  match l, hne with
  | [x], _ => simpa [joinSep] using h x (by simp)
  | x :: y :: ys, _ => simp [joinSep, h x (by simp)]

theorem Elems.join_ne_nil {ss : List Str} (h : Elems ss) (hne : ss ≠ []) : joinSep [','] ss ≠ [] :=
  joinSep_ne_nil _ hne fun s hs => (h s hs).2

theorem Elems.brackets {ss : List Str} (h : Elems ss) {c : Char} (hc : c ∈ joinSep [','] ss) : c ≠ '[' ∧ c ≠ ']' := by
  rcases mem_joinSep hc with hc | ⟨s, hs, hc⟩
  · simp at hc; subst hc; decide
  · exact ⟨ne_of_class ((h s hs).1 c hc) (by decide), ne_of_class ((h s hs).1 c hc) (by decide)⟩

theorem Elems.splitOn_join {ss : List Str} (h : Elems ss) (hne : ss ≠ []) : splitOn ',' (joinSep [','] ss) = ss :=
  splitOn_joinSep ',' ss hne fun s hs => (h s hs).1.no (by decide)

/-- a splitter that collects record characters into the current piece, starts a new piece at a comma and
    ends with the current piece reads a printed list back (both list splitters of the crate do, at depth 0) -/
theorem Elems.split_join {f : Str → Str → List Str} (hnil : ∀ cur, cur ≠ [] → f cur [] = [cur])
    (hcomma : ∀ cur rest, cur ≠ [] → f cur (',' :: rest) = cur :: f [] rest)
    (hchar : ∀ cur c rest, recChar c = true → f cur (c :: rest) = f (cur ++ [c]) rest)
    {ss : List Str} (h : Elems ss) (hne : ss ≠ []) : f [] (joinSep [','] ss) = ss := by
  have elem : ∀ (p cur rest : Str), RecChars p → f cur (p ++ rest) = f (cur ++ p) rest := by
    intro p
    induction p with
    | nil => intro cur rest _; simp
    | cons c p ih =>
      intro cur rest hp
      rw [List.cons_append, hchar _ _ _ (hp c (List.mem_cons_self ..)), ih _ _ fun x hx => hp x (List.mem_cons_of_mem _ hx)]
      simp
  induction ss with
  | nil => exact absurd rfl hne
  | cons p rest ih =>
    obtain ⟨hp, hpne⟩ := h p (List.mem_cons_self ..)
    cases rest with
    | nil => simpa [joinSep, hnil p hpne] using elem p [] [] hp
    | cons q rest' =>
      rw [show joinSep [','] (p :: q :: rest') = p ++ ',' :: joinSep [','] (q :: rest') by simp [joinSep],
        elem p [] _ hp, List.nil_append, hcomma p _ hpne, ih h.tail (by simp)]

theorem Elems.splitTop_join {ss : List Str} (h : Elems ss) : splitTop 0 [] (joinSep [','] ss) = ss := by
  by_cases hne : ss = []
  · subst hne; rfl
  refine h.split_join (f := splitTop 0) (fun cur hc => ?_) (fun cur rest hc => ?_) (fun cur c rest hc => ?_) hne
  · simp [splitTop, hc]
  · simp [splitTop, hc]
  · have ne {d : Char} (hd : recChar d = false) : c ≠ d := ne_of_class hc hd
    rw [splitTop]; simp only [ne (d := ',') (by decide), ne (d := '[') (by decide), ne (d := ']') (by decide), false_and, if_false]

theorem Elems.splitOrders_join {ss : List Str} (h : Elems ss) (hne : ss ≠ []) : splitOrders 0 [] (joinSep [','] ss) = ss := by
  refine h.split_join (f := splitOrders 0) (fun cur _ => rfl) (fun cur rest _ => ?_) (fun cur c rest hc => ?_) hne
  · simp (config := {decide := true}) [splitOrders]
  · have ne {d : Char} (hd : recChar d = false) : c ≠ d := ne_of_class hc hd
    rw [splitOrders]; simp only [ne (d := ',') (by decide), ne (d := '[') (by decide), ne (d := ']') (by decide),
      ne (d := '(') (by decide), ne (d := ')') (by decide), false_and, or_self, if_false]

/-- the last piece of a printed list is not empty (`PriceLevel::from_str` drops an empty last piece) -/
theorem Elems.last {ss : List Str} (h : Elems ss) (hne : ss ≠ []) :
    ∃ last init, ss.reverse = last :: init ∧ last.isEmpty = false := by
  match hr : ss.reverse with
  | [] => simp_all
  | last :: init =>
    exact ⟨last, init, rfl, by simpa using (h last (List.mem_reverse.1 (hr ▸ List.mem_cons_self ..))).2⟩

/-- the common end of the list parsers: an empty body is the empty list, any other is split and
    parsed piece by piece -/
theorem list_rt {α ε : Type} {sh : α → Str} {parse : Str → Except ε α} {split : Str → List Str} {l : List α}
    (he : Elems (l.map sh)) (hs : l.map sh ≠ [] → split (joinSep [','] (l.map sh)) = l.map sh)
    (hp : ∀ x ∈ l, parse (sh x) = .ok x) :
    (if (joinSep [','] (l.map sh)).isEmpty then .ok [] else (split (joinSep [','] (l.map sh))).mapM parse) = .ok l := by
  cases l with
  | nil => simp [joinSep]
  | cons x xs =>
    rw [if_neg (by simpa using he.join_ne_nil (by simp)), hs (by simp)]
    exact mapM_show sh parse _ hp

theorem idxOf_append {c : Char} {a : Str} (b : Str) (h : c ∉ a) : idxOf c (a ++ c :: b) = some a.length := by
  unfold idxOf
  induction a with
  | nil => simp [List.idxOf?, List.findIdx?_cons]
  | cons x a ih =>
    have hx : x ≠ c := fun e => h (by simp [e])
    have := ih (fun hm => h (List.mem_cons_of_mem _ hm))
    simp only [List.idxOf?] at this ⊢
    simp [List.findIdx?_cons, hx, this]

theorem idxOf_none {c : Char} {a : Str} (h : c ∉ a) : idxOf c a = none := by
  simp only [idxOf, List.idxOf?, List.findIdx?_eq_none_iff, beq_eq_false_iff_ne]
  exact fun x hx e => h (e ▸ hx)

theorem ridxOf_snoc (x : Str) (c : Char) : ridxOf c (x ++ [c]) = some x.length := by
  simp [ridxOf, List.idxOf?, List.findIdx?_cons]

theorem kvOf_kv {k : String} (v : Str) (hk : Plain (lit k)) : kvOf (kv k v) = some (lit k, v) := by
  rw [kvOf, kv_eq, pair, idxOf_append v (hk.no (by decide))]
  simp

theorem splitOn_joinSep_snoc (c : Char) (ps : List Str) (hne : ps ≠ []) (h : ∀ p ∈ ps, c ∉ p) :
    splitOn c (joinSep [c] ps ++ [c]) = ps ++ [[]] := by
  fun_induction joinSep [c] ps with
  | case1 => exact absurd rfl hne
  | case2 p => rw [splitOn_append (h p (by simp))]; rfl
  | case3 p rest hr ih =>
    rw [List.append_assoc, List.append_assoc, List.singleton_append, splitOn_append (h p (by simp)),
      ih (fun e => hr e) fun x hx => h x (List.mem_cons_of_mem _ hx)]
    rfl

/-- the field map of `PriceLevel::from_str` on a printed field list closed by `;` -/
theorem KVs.parts {fs ps} (h : KVs fs ps) :
    ((splitOn ';' (joinSep [';'] fs ++ [';'])).filter (fun p => !p.isEmpty)).filterMap kvOf = ps := by
  cases h with
  | nil => rfl
  | cons hk hv h =>
    have hne : ∀ f ∈ _, (!List.isEmpty f) = true := fun f hf => by
      obtain ⟨k, v, rfl, _⟩ := (KVs.cons hk hv h).mem hf; simp [kv]
    rw [splitOn_joinSep_snoc ';' _ (by simp) fun f => (KVs.cons hk hv h).no_semi, List.filter_append,
      List.filter_eq_self.2 hne, show List.filter (fun p : Str => !p.isEmpty) [[]] = [] from rfl, List.append_nil]
    exact (KVs.cons hk hv h).filterMap fun k v hk _ => kvOf_kv v hk

theorem showOrder_ne_nil (o : Order) : showOrder o ≠ [] := by
  obtain ⟨id, price, vis, side, ts, tif, kind⟩ := o
  cases kind <;> (simp only [showOrder]; exact record_ne_nil _ _)

theorem showId_ne_nil (i : Id) : showId i ≠ [] := by
  intro e
  have h1 := showUuid_length i.val
  have h2 := showUlid_length i.val
  unfold showId at e
  split at e <;> simp_all

theorem ids_elems (l : List Id) : Elems (l.map showId) :=
  Elems.map (fun i => ⟨RecChars.of_plain (plain_showId i), showId_ne_nil i⟩) l


end PLV.Text
