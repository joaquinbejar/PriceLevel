/-
  One step of one thread, taken apart once.

  `tstep` is a table with a row per program counter, and some rows branch on the shared state (is
  the id in the map? is the queue empty? which way does the amend adjust?). `Step s pc s' a` states
  the table as a relation, row by row, with every such branch resolved and its condition as a
  hypothesis; `tstep_step` says that `tstep` takes such a step. A fact about all steps is stated of
  `Step` and proved row by row — the local law of every invariant of the interleaving model is proved
  that way. `afterVisit_elim` / `afterStats_elim` do the same for the two continuations of a maker
  visit, which `Step` leaves as they are.
-/
import PLV.Model.Conc

namespace PLV.Conc
open PLV

/-- where a thread stands after its step: a call that has returned leaves it idle. The laws about a
    step speak of a measure `m` after the step as `m a.pc`; every measure is 0 at `.idle`. -/
def After.pc : After → Pc
  | .cont pc => pc
  | .done _ => .idle

/-- **The step table as a relation**: one constructor per row of `tstep`. A row that branches — on
    the shared state, or on its locals when that decides the successor — stands once per branch, with
    the condition as a hypothesis; the two `.mPop` rows with an empty queue carry the shape of the
    set-aside list in `L` itself. The laws go by `induction` on it (there is nothing recursive: unlike
    `cases` it solves no equations between indices, which is measurably cheaper over 56 rows). -/
inductive Step (s : Shared) : Pc → Shared → After → Prop
  | idle : Step s .idle s (.cont .idle)
  | add0 (o : Order) : Step s (.add0 o) { s with vis := wadd s.vis o.vis } (.cont (.add1 o))
  | add1 (o : Order) : Step s (.add1 o) { s with hid := wadd s.hid o.hid } (.cont (.add2 o))
  | add2 (o : Order) : Step s (.add2 o) { s with cnt := wadd s.cnt 1 } (.cont (.add3 o))
  | add3 (o : Order) : Step s (.add3 o) { s with stats := { s.stats with added := wadd s.stats.added 1 } } (.cont (.add4 o))
  | add4 (o : Order) : Step s (.add4 o) { s with map := s.map.insert o } (.cont (.add5 o))
  | add5 (o : Order) : Step s (.add5 o) { s with tickets := s.tickets ++ [o.id] } (.done "ok")
  | can0_none (id : Id) : s.map.find id = none → Step s (.can0 id) s (.done "ok=-")
  | can0_some (id : Id) (o : Order) : s.map.find id = some o → Step s (.can0 id) { s with map := s.map.erase id } (.cont (.can1 o))
  | can1 (o : Order) : Step s (.can1 o) { s with vis := wsub s.vis o.vis } (.cont (.can2 o))
  | can2 (o : Order) : Step s (.can2 o) { s with hid := wsub s.hid o.hid } (.cont (.can3 o))
  | can3 (o : Order) : Step s (.can3 o) { s with cnt := wsub s.cnt 1 } (.cont (.can4 o))
  | can4 (o : Order) : Step s (.can4 o) { s with stats := { s.stats with removed := wadd s.stats.removed 1 } }
      (.done ("ok=" ++ Proto.showOrder o))
  | am0_none (id : Id) (n : Nat) : s.map.find id = none → Step s (.am0 id n) s (.done "ok=-")
  | am0_some (id : Id) (n : Nat) (o : Order) : s.map.find id = some o → Step s (.am0 id n) s (.cont (.am1 id n))
  | am1_none (id : Id) (n : Nat) : s.map.find id = none → Step s (.am1 id n) s (.done "ok=-")
  | am1_amV (id : Id) (n : Nat) (o1 : Order) : s.map.find id = some o1 → o1.vis ≠ (o1.withReduced n).vis →
      Step s (.am1 id n) { s with map := s.map.erase id } (.cont (.amV o1 (o1.withReduced n)))
  | am1_amH (id : Id) (n : Nat) (o1 : Order) : s.map.find id = some o1 →
      o1.vis = (o1.withReduced n).vis ∧ o1.hid ≠ (o1.withReduced n).hid →
      Step s (.am1 id n) { s with map := s.map.erase id } (.cont (.amH o1 (o1.withReduced n)))
  | am1_amIns (id : Id) (n : Nat) (o1 : Order) : s.map.find id = some o1 →
      o1.vis = (o1.withReduced n).vis ∧ o1.hid = (o1.withReduced n).hid →
      Step s (.am1 id n) { s with map := s.map.erase id } (.cont (.amIns (o1.withReduced n)))
  | amV_up_amH (o1 new : Order) : new.vis > o1.vis → o1.hid ≠ new.hid →
      Step s (.amV o1 new) { s with vis := wadd s.vis (new.vis - o1.vis) } (.cont (.amH o1 new))
  | amV_up_amIns (o1 new : Order) : new.vis > o1.vis → o1.hid = new.hid →
      Step s (.amV o1 new) { s with vis := wadd s.vis (new.vis - o1.vis) } (.cont (.amIns new))
  | amV_down_amH (o1 new : Order) : ¬ new.vis > o1.vis → o1.hid ≠ new.hid →
      Step s (.amV o1 new) { s with vis := wsub s.vis (o1.vis - new.vis) } (.cont (.amH o1 new))
  | amV_down_amIns (o1 new : Order) : ¬ new.vis > o1.vis → o1.hid = new.hid →
      Step s (.amV o1 new) { s with vis := wsub s.vis (o1.vis - new.vis) } (.cont (.amIns new))
  | amH_up (o1 new : Order) : new.hid > o1.hid → Step s (.amH o1 new) { s with hid := wadd s.hid (new.hid - o1.hid) } (.cont (.amIns new))
  | amH_down (o1 new : Order) : ¬ new.hid > o1.hid → Step s (.amH o1 new) { s with hid := wsub s.hid (o1.hid - new.hid) } (.cont (.amIns new))
  | amIns (new : Order) : Step s (.amIns new) { s with map := s.map.insert new } (.cont (.amTk new))
  | amTk (new : Order) : Step s (.amTk new) { s with tickets := s.tickets ++ [new.id] } (.done ("ok=" ++ Proto.showOrder new))
  | mPop_done (L : MLoc) : s.tickets = [] →
      Step s (.mPop { L with aside := [] }) s (.done (showResult { L with aside := [] }))
  | mPop_flush (L : MLoc) (u : Order) (rest : List Order) : s.tickets = [] →
      Step s (.mPop { L with aside := u :: rest }) s (.cont (.fIns { L with aside := u :: rest } u rest))
  | mPop_some (L : MLoc) (t : Id) (ts : List Id) : s.tickets = t :: ts → Step s (.mPop L) { s with tickets := ts } (.cont (.mRm L t))
  | mRm_none (L : MLoc) (t : Id) : s.map.find t = none → Step s (.mRm L t) s (.cont (.mPop L))
  | mRm_exec (L : MLoc) (t : Id) (o : Order) : s.map.find t = some o → (matchAgainst o L.rem).consumed > 0 →
      Step s (.mRm L t) { s with map := s.map.erase t } (.cont (.mSubV L o))
  | mRm_dry (L : MLoc) (t : Id) (o : Order) : s.map.find t = some o → (matchAgainst o L.rem).consumed = 0 →
      Step s (.mRm L t) { s with map := s.map.erase t } (.cont (.mSt1 L o))
  | mSubV (L : MLoc) (o : Order) : Step s (.mSubV L o) { s with vis := wsub s.vis (matchAgainst o L.rem).consumed } (.cont (.mUuid L o))
  | mUuid (L : MLoc) (o : Order) : Step s (.mUuid L o) { s with g := wadd s.g 1 }
      (.cont (.mSt1 { L with txs := L.txs ++ [⟨s.g, L.taker, o.id, s.price, (matchAgainst o L.rem).consumed, o.side.opposite⟩],
                             filled := if (matchAgainst o L.rem).updated.isNone then L.filled ++ [o.id] else L.filled } o))
  | mSt1 (L : MLoc) (o : Order) : Step s (.mSt1 L o) { s with stats := { s.stats with executed := wadd s.stats.executed 1 } } (.cont (.mSt2 L o))
  | mSt2 (L : MLoc) (o : Order) : Step s (.mSt2 L o) { s with stats := { s.stats with qty := wadd s.stats.qty (matchAgainst o L.rem).consumed } }
      (.cont (.mSt3 L o))
  | mSt3 (L : MLoc) (o : Order) : Step s (.mSt3 L o)
      { s with stats := { s.stats with value := wadd s.stats.value (((matchAgainst o L.rem).consumed * o.price) % W) } }
      (.cont (.mSt4 L o))
  | mSt4_wait (L : MLoc) (o : Order) : o.ts > 0 → Step s (.mSt4 L o) s (.cont (.mSt5 L o))
  | mSt4 (L : MLoc) (o : Order) : ¬ o.ts > 0 → Step s (.mSt4 L o) s (afterStats L o)
  | mSt5 (L : MLoc) (o : Order) : Step s (.mSt5 L o) s (afterStats L o)
  | mHSub (L : MLoc) (u : Order) (hr : Nat) : Step s (.mHSub L u hr) { s with hid := wsub s.hid hr } (.cont (.mVAdd L u hr))
  | mVAdd (L : MLoc) (u : Order) (hr : Nat) : Step s (.mVAdd L u hr) { s with vis := wadd s.vis hr } (.cont (.mIns L u))
  | mIns (L : MLoc) (u : Order) : Step s (.mIns L u) { s with map := s.map.insert u } (.cont (.mTk L u))
  | mTk (L : MLoc) (u : Order) : Step s (.mTk L u) { s with tickets := s.tickets ++ [u.id] } (afterVisit L)
  | mCnt_hidden (L : MLoc) (o : Order) : (o.kind.hasHidden && decide (o.hid > 0)) = true →
      Step s (.mCnt L o) { s with cnt := wsub s.cnt 1 } (.cont (.mHLeft L o))
  | mCnt (L : MLoc) (o : Order) : ¬ (o.kind.hasHidden && decide (o.hid > 0)) = true →
      Step s (.mCnt L o) { s with cnt := wsub s.cnt 1 } (afterVisit L)
  | mHLeft (L : MLoc) (o : Order) : Step s (.mHLeft L o) { s with hid := wsub s.hid o.hid } (afterVisit L)
  | fIns (L : MLoc) (u : Order) (rest : List Order) : Step s (.fIns L u rest) { s with map := s.map.insert u } (.cont (.fTk L u rest))
  | fTk_done (L : MLoc) (u : Order) : Step s (.fTk L u []) { s with tickets := s.tickets ++ [u.id] } (.done (showResult L))
  | fTk_more (L : MLoc) (u v : Order) (rest : List Order) :
      Step s (.fTk L u (v :: rest)) { s with tickets := s.tickets ++ [u.id] } (.cont (.fIns L v rest))
  | rdVis : Step s .rdVis s (.done (toString s.vis))
  | rdHid : Step s .rdHid s (.done (toString s.hid))
  | rdCnt : Step s .rdCnt s (.done (toString s.cnt))
  | rdList : Step s .rdList s (.done (Proto.showList Proto.showOrder (Proto.canonSort s.map)))
  | nx : Step s .nx { s with g := wadd s.g 1 } (.done (toString s.g))

theorem tstep_step (s : Shared) : ∀ pc, Step s pc (tstep s pc).1 (tstep s pc).2.1
  | .idle => .idle
  | .add0 o => .add0 o
  | .add1 o => .add1 o
  | .add2 o => .add2 o
  | .add3 o => .add3 o
  | .add4 o => .add4 o
  | .add5 o => .add5 o
  | .can1 o => .can1 o
  | .can2 o => .can2 o
  | .can3 o => .can3 o
  | .can4 o => .can4 o
  | .amIns new => .amIns new
  | .amTk new => .amTk new
  | .mSubV L o => .mSubV L o
  | .mUuid L o => .mUuid L o
  | .mSt1 L o => .mSt1 L o
  | .mSt2 L o => .mSt2 L o
  | .mSt3 L o => .mSt3 L o
  | .mSt5 L o => .mSt5 L o
  | .mHSub L u hr => .mHSub L u hr
  | .mVAdd L u hr => .mVAdd L u hr
  | .mIns L u => .mIns L u
  | .mTk L u => .mTk L u
  | .mHLeft L o => .mHLeft L o
  | .fIns L u rest => .fIns L u rest
  | .fTk L u [] => .fTk_done L u
  | .fTk L u (v :: rest) => .fTk_more L u v rest
  | .rdVis => .rdVis
  | .rdHid => .rdHid
  | .rdCnt => .rdCnt
  | .rdList => .rdList
  | .nx => .nx
  | .can0 id => by
    simp only [tstep]
    cases h : s.map.find id with
    | none => exact .can0_none id h
    | some o => exact .can0_some id o h
  | .am0 id n => by
    simp only [tstep]
    cases h : s.map.find id with
    | none => exact .am0_none id n h
    | some o => exact .am0_some id n o h
  | .am1 id n => by
    simp only [tstep]
    cases h : s.map.find id with
    | none => exact .am1_none id n h
    | some o1 =>
      by_cases hv : o1.vis ≠ (o1.withReduced n).vis
      · simpa only [if_pos hv] using Step.am1_amV id n o1 h hv
      · have hv' := Decidable.not_not.1 hv
        by_cases hh : o1.hid ≠ (o1.withReduced n).hid
        · simpa only [if_neg hv, if_pos hh] using Step.am1_amH id n o1 h ⟨hv', hh⟩
        · simpa only [if_neg hv, if_neg hh] using Step.am1_amIns id n o1 h ⟨hv', Decidable.not_not.1 hh⟩
  | .amV o1 new => by
    simp only [tstep]
    by_cases hv : new.vis > o1.vis <;> by_cases hh : o1.hid ≠ new.hid
    · simpa only [if_pos hv, if_pos hh] using Step.amV_up_amH o1 new hv hh
    · simpa only [if_pos hv, if_neg hh] using Step.amV_up_amIns o1 new hv (Decidable.not_not.1 hh)
    · simpa only [if_neg hv, if_pos hh] using Step.amV_down_amH o1 new hv hh
    · simpa only [if_neg hv, if_neg hh] using Step.amV_down_amIns o1 new hv (Decidable.not_not.1 hh)
  | .amH o1 new => by
    simp only [tstep]
    split
    · exact .amH_up o1 new ‹_›
    · exact .amH_down o1 new ‹_›
  | .mPop L => by
    simp only [tstep]
    cases ht : s.tickets with
    | nil =>
      obtain ⟨tk, rm, tx, fl, as⟩ := L
      cases as with
      | nil => exact .mPop_done ⟨tk, rm, tx, fl, []⟩ ht
      | cons u rest => exact .mPop_flush ⟨tk, rm, tx, fl, []⟩ u rest ht
    | cons t ts => exact .mPop_some L t ts ht
  | .mRm L t => by
    simp only [tstep]
    cases h : s.map.find t with
    | none => exact .mRm_none L t h
    | some o =>
      by_cases hc : (matchAgainst o L.rem).consumed > 0
      · simpa only [if_pos hc] using Step.mRm_exec L t o h hc
      · simpa only [if_neg hc] using Step.mRm_dry L t o h (by omega)
  | .mSt4 L o => by
    simp only [tstep]
    split
    · exact .mSt4_wait L o ‹_›
    · exact .mSt4 L o ‹_›
  | .mCnt L o => by
    simp only [tstep]
    split
    · exact .mCnt_hidden L o ‹_›
    · exact .mCnt L o ‹_›

/-- the three ways a match goes on once a maker visit is over -/
theorem afterVisit_elim {P : After → Prop} (L : MLoc)
    (again : L.rem ≠ 0 → P (.cont (.mPop L)))
    (done : L.aside = [] → P (.done (showResult L)))
    (flush : ∀ u rest, L.aside = u :: rest → P (.cont (.fIns L u rest))) : P (afterVisit L) := by
  unfold afterVisit
  split
  · split
    · exact done ‹_›
    · exact flush _ _ ‹_›
  · exact again ‹_›

/-- the four fates of the visited maker `o` once the statistics are written, each with what
    `matchAgainst` says in that case: it leaves the book, is set aside untouched, is refilled from its
    hidden quantity, or goes back as it is -/
theorem afterStats_elim {P : After → Prop} (L : MLoc) (o : Order)
    (leave : (matchAgainst o L.rem).updated = none →
      P (.cont (.mCnt { L with rem := (matchAgainst o L.rem).remaining } o)))
    (aside : ∀ u, (matchAgainst o L.rem).updated = some u →
      (matchAgainst o L.rem).consumed = 0 ∧ (matchAgainst o L.rem).hiddenRed = 0 →
      P (afterVisit { L with rem := (matchAgainst o L.rem).remaining, aside := L.aside ++ [u] }))
    (refill : ∀ u, (matchAgainst o L.rem).updated = some u → (matchAgainst o L.rem).hiddenRed > 0 →
      P (.cont (.mHSub { L with rem := (matchAgainst o L.rem).remaining } u (matchAgainst o L.rem).hiddenRed)))
    (back : ∀ u, (matchAgainst o L.rem).updated = some u → (matchAgainst o L.rem).hiddenRed = 0 →
      (matchAgainst o L.rem).consumed ≠ 0 → P (.cont (.mIns { L with rem := (matchAgainst o L.rem).remaining } u))) :
    P (afterStats L o) := by
  unfold afterStats
  simp only
  split
  · rename_i u hu
    split
    · exact aside u hu ‹_›
    · split
      · exact refill u hu ‹_›
      · exact back u hu (by omega) (by omega)
  · exact leave ‹_›

/-- an order that leaves at `.mCnt` without the `.mHLeft` step carries no hidden quantity: its kind
    has none, or the test of the row found none -/
theorem mCnt_plain {o : Order} (hk : ¬ (o.kind.hasHidden && decide (o.hid > 0)) = true) : o.hid = 0 := by
  cases hh : o.kind.hasHidden with
  | false => exact hid_of_plain o hh
  | true => simpa [hh] using hk

end PLV.Conc
