/-
  The inductive invariant of a concurrent execution over all schedules (C03, C08, C12, C13):
  ownership of every order id by counting, well-formed program counters, and the three counters
  congruent modulo 2^64 to what rests in the map plus every thread's credit.
-/
import PLV.Lemmas.ConcLocal
import PLV.Lemmas.ConcOwn
import PLV.Lemmas.ConcShare

namespace PLV.Conc
open PLV

/-- the id a call not yet started will bring: an add holds its order's id from its first step
    (`held (.add0 o)`), so two adds of one id are excluded before either starts -/
def opHeld : COp → List Id
  | .add o => [o.id]
  | _ => []

/-- ids a thread holds or will bring: those of its current call and of the adds it has yet to issue -/
def theld (t : Thread) : List Id := held t.pc ++ t.todo.flatMap opHeld

/-- a thread whose program counter and remaining calls are well formed; the invariant carries this for every
    thread, which is what hands `PcOk` to the local laws at every step -/
def tok (t : Thread) : Prop := PcOk t.pc ∧ ∀ op ∈ t.todo, OpOk op

theorem share_cV : Share (fun t => cV t.pc) cV := .pc cV rfl (by intro op; cases op <;> rfl)
theorem share_cH : Share (fun t => cH t.pc) cH := .pc cH rfl (by intro op; cases op <;> rfl)
theorem share_cC : Share (fun t => cC t.pc) cC := .pc cC rfl (by intro op; cases op <;> rfl)

theorem count_flatMap_opHeld (x : Id) (l : List COp) :
    (l.flatMap opHeld).count x = sumOps (fun op => (opHeld op).count x) l := by
  induction l with
  | nil => rfl
  | cons op rest ih => simp only [List.flatMap_cons, List.count_append, ih, sumOps]

theorem share_held (x : Id) : Share (fun t => (theld t).count x) (fun pc => (held pc).count x) := by
  simpa only [theld, List.count_append, count_flatMap_opHeld] using
    Share.of (fun pc => (held pc).count x) (fun op => (opHeld op).count x) rfl (by intro op; cases op <;> rfl)

theorem own_step (x : Id) (c : Cfg) (i : Nat) :
    (ids (step c i).1.sh.map).count x + sumT (fun t => (theld t).count x) (step c i).1.ts ≤
      (ids c.sh.map).count x + sumT (fun t => (theld t).count x) c.ts := by
  have := (share_held x).step c i
  have := (tstep_step c.sh (c.pcOf i)).own x
  simp only [step_sh] at *; omega

theorem own_run (x : Id) (c : Cfg) (sched : List Nat) :
    (ids (run c sched).sh.map).count x + sumT (fun t => (theld t).count x) (run c sched).ts ≤
      (ids c.sh.map).count x + sumT (fun t => (theld t).count x) c.ts :=
  run_inv (P := fun c' => (ids c'.sh.map).count x + sumT (fun t => (theld t).count x) c'.ts ≤ _)
    (fun c' j h => Nat.le_trans (own_step x c' j) h) sched (Nat.le_refl _)

theorem tok_norm {t tn : Thread} (h : t.norm = some tn) (hok : tok t) : tok tn := by
  unfold Thread.norm at h
  split at h
  · cases h
  · rename_i op rest _ htodo
    cases h
    refine ⟨?_, fun o ho => hok.2 o (by rw [htodo]; simp [ho])⟩
    have := hok.2 op (by rw [htodo]; simp)
    cases op <;> simp_all [start, PcOk, OpOk]
  · cases h; exact hok

theorem tok_pcOf {c : Cfg} (h : ∀ t ∈ c.ts, tok t) (i : Nat) : PcOk (c.pcOf i) := by
  rcases c.slot_cases i with ⟨hp, _⟩ | ⟨t, tn, hti, hn, hp, _⟩ <;> rw [hp]
  · trivial
  · exact (tok_norm hn (h t (List.mem_of_getElem? hti))).1

theorem tok_step {c : Cfg} (h : ∀ t ∈ c.ts, tok t) (i : Nat) : ∀ t ∈ (step c i).1.ts, tok t := by
  rcases c.slot_cases i with ⟨_, hs⟩ | ⟨t, tn, hti, hn, _, hs⟩ <;> rw [hs]
  · exact h
  · intro t' ht'
    have hokn := tok_norm hn (h t (List.mem_of_getElem? hti))
    rcases List.mem_or_eq_of_mem_set ht' with ht' | rfl
    · exact h t' ht'
    · have := (tstep_step c.sh tn.pc).ok hokn.1
      cases ha : (tstep c.sh tn.pc).2.1 <;> rw [ha] at this <;> exact ⟨this, hokn.2⟩

structure CInv (c : Cfg) : Prop where
  /-- every id is in exactly one place: the map, or the hands of one thread -/
  own : ∀ x, (ids c.sh.map).count x + sumT (fun t => (theld t).count x) c.ts ≤ 1
  ok : ∀ t ∈ c.ts, tok t
  /-- each counter holds, modulo 2^64, the sum over the map plus every thread's credit -/
  vis : c.sh.vis % W = (sumVis c.sh.map + sumT (fun t => cV t.pc) c.ts) % W
  hid : c.sh.hid % W = (sumHid c.sh.map + sumT (fun t => cH t.pc) c.ts) % W
  cnt : c.sh.cnt % W = (c.sh.map.length + sumT (fun t => cC t.pc) c.ts) % W

theorem CInv.nodup {c : Cfg} (h : CInv c) : (ids c.sh.map).Nodup := by
  rw [List.nodup_iff_count]
  intro x; have := h.own x; omega

theorem CInv.at {c : Cfg} (h : CInv c) (i : Nat) :
    (∀ x ∈ held (c.pcOf i), x ∉ ids c.sh.map) ∧ PcOk (c.pcOf i) := by
  refine ⟨fun x hx hm => ?_, tok_pcOf h.ok i⟩
  have := h.own x
  have := (share_held x).le c i
  have : 0 < (held (c.pcOf i)).count x := List.count_pos_iff.2 hx
  have : 0 < (ids c.sh.map).count x := List.count_pos_iff.2 hm
  omega

theorem CInv.step {c : Cfg} (h : CInv c) (i : Nat) : CInv (Conc.step c i).1 := by
  obtain ⟨hfresh, hok⟩ := h.at i
  obtain ⟨hv, hh, hc⟩ := (tstep_step c.sh (c.pcOf i)).counters h.nodup hfresh hok
  have sv := share_cV.step c i; have sh := share_cH.step c i; have sc := share_cC.step c i
  refine ⟨fun x => Nat.le_trans (own_step x c i) (h.own x), tok_step h.ok i, ?_, ?_, ?_⟩ <;> rw [step_sh]
  -- the congruences are consumed by `cong_move`; what `omega` is left with is linear
  · exact cong_move (x' := 0) hv (x := 0) h.vis (by clear hv hh hc; omega)
  · exact cong_move (x' := 0) hh (x := 0) h.hid (by clear hv hh hc; omega)
  · exact cong_move (x' := 0) hc (x := 0) h.cnt (by clear hv hh hc; omega)

theorem CInv.run {c : Cfg} (h : CInv c) (sched : List Nat) : CInv (Conc.run c sched) :=
  run_inv (fun _ i h => h.step i) sched h

end PLV.Conc
