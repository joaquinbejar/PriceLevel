/-
  Helper lemmas: every way of building a level from a list of orders establishes `Level.Inv`
  and derives the aggregates from the orders. With distinct ids both ways put the orders into the map
  in list order (`Level.fromSnapshot_eq`, `foldl_addOrder_spec`).
-/
import PLV.Lemmas.LevelInv
import PLV.Lemmas.Queue

namespace PLV

/-- `refresh_aggregates` computes the true sum whenever it fits in 64 bits. `S` is the model's sum of `f`
    (`sumVis`, `sumHid`), given by its two equations. -/
theorem satFold_eq (f : Order → Nat) (S : List Order → Nat) (h0 : S [] = 0) (hc : ∀ o r, S (o :: r) = f o + S r)
    (os : List Order) (h : S os < W) : satFold f os = S os := by
  have gen : ∀ os acc, acc + S os < W → os.foldl (fun acc o => sadd acc (f o)) acc = acc + S os := by
    intro os
    induction os with
    | nil => intro acc _; simp [h0]
    | cons o rest ih =>
      intro acc h
      rw [hc] at h ⊢
      rw [List.foldl_cons, sadd_eq (by omega), ih _ (by omega)]; omega
  simpa [satFold] using gen os 0 (by omega)

/-- what a snapshot must satisfy for the level rebuilt from it to be well-formed: distinct ids and
    sums that fit in 64 bits. Nothing is asked of the aggregate figures it carries. -/
structure Snapshot.Good (s : Snapshot) : Prop where
  nodup : (ids s.orders).Nodup
  fits : sumVis s.orders + sumHid s.orders < W
  cfits : s.orders.length < W

theorem Level.fromSnapshot_eq (s : Snapshot) (h : s.Good) :
    Level.fromSnapshot s = { price := s.price, vis := sumVis s.orders, hid := sumHid s.orders,
                             cnt := s.orders.length, map := s.orders, tickets := ids s.orders } := by
  have hf := h.fits
  simp only [Level.fromSnapshot, Snapshot.refresh, fromVec_eq _ h.nodup]
  rw [satFold_eq _ sumVis rfl (fun _ _ => rfl) _ (by omega), satFold_eq _ sumHid rfl (fun _ _ => rfl) _ (by omega)]

theorem Level.fromSnapshot_inv (s : Snapshot) (h : s.Good) : (Level.fromSnapshot s).Inv := by
  rw [Level.fromSnapshot_eq s h]
  exact ⟨h.nodup, fun _ hx => hx, rfl, rfl, rfl, h.fits, h.cfits⟩

/-- adding a list of fresh orders one by one (`TryFrom<PriceLevelData>`, serde, text) appends them to the map -/
theorem foldl_addOrder_spec (os : List Order) :
    ∀ (l : Level), l.Inv → (ids os).Nodup → (∀ x ∈ ids os, x ∉ ids l.map) →
      sumVis l.map + sumHid l.map + sumVis os + sumHid os < W → l.map.length + os.length < W →
      (os.foldl Level.addOrder l).Inv ∧ (os.foldl Level.addOrder l).map = l.map ++ os ∧
      (os.foldl Level.addOrder l).price = l.price := by
  induction os with
  | nil => intro l h _ _ _ _; simp [h]
  | cons o rest ih =>
    intro l h ho hd hf hc
    rw [ids_cons, List.nodup_cons] at ho
    simp only [sumVis, sumHid, List.length_cons] at hf hc
    have hfresh : o.id ∉ ids l.map := hd o.id (by simp)
    have hmap : (l.addOrder o).map = l.map ++ [o] := insert_fresh hfresh
    obtain ⟨h1, h2, h3⟩ := ih (l.addOrder o) (h.addOrder_inv ⟨find_none.2 hfresh, by omega, by omega⟩) ho.2
      (by rw [hmap, ids_append]; exact fresh_tail hd ho.1)
      (by rw [hmap, sumVis_append, sumHid_append]; simp only [sumVis, sumHid]; omega)
      (by rw [hmap]; simp only [List.length_append, List.length_cons, List.length_nil]; omega)
    exact ⟨h1, by rw [List.foldl_cons, h2, hmap]; simp, h3⟩

theorem Level.fromOrders_inv (p : Nat) (os : List Order) (hn : (ids os).Nodup)
    (hf : sumVis os + sumHid os < W) (hc : os.length < W) :
    (Level.fromOrders p os).Inv ∧ (Level.fromOrders p os).map = os ∧ (Level.fromOrders p os).price = p := by
  simpa [Level.fromOrders, Level.new] using
    foldl_addOrder_spec os (Level.new p) (Level.inv_new p) hn (by simp [Level.new])
      (by simp only [Level.new, sumVis, sumHid]; omega) (by simp only [Level.new, List.length_nil]; omega)

end PLV
