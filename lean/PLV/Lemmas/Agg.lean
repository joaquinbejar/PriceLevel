/-
  The aggregate invariant of the loop of `match_order` (`AggInv`: counters = sums over the map and the
  set-aside orders, nothing wraps, every key ticketed) and its preservation by each kind of visit
  (helper lemmas for C01, C02, C06, C07, C15).
-/
import PLV.Lemmas.Match
import PLV.Lemmas.OMap

namespace PLV

/-- `m`, `ts`: what is left of the queue; `a.aside`: the orders kept out of it until the call ends (they
    still rest at the level, so the counters count them) -/
structure AggInv (m : OMap) (ts : List Id) (a : Acc) : Prop where
  nodupM : (ids m).Nodup
  nodupA : (ids a.aside).Nodup
  disj : ∀ x ∈ ids a.aside, x ∉ ids m
  covered : ∀ x ∈ ids m, x ∈ ts
  vis : a.vis = sumVis m + sumVis a.aside
  hid : a.hid = sumHid m + sumHid a.aside
  cnt : a.cnt = m.length + a.aside.length
  fits : sumVis m + sumVis a.aside + sumHid m + sumHid a.aside < W
  cfits : m.length + a.aside.length < W

/-- an entry found in the map is bounded by each of the three sums, not only by the displayed one -/
theorem sumVis_le_of_find {m : OMap} {id : Id} {o : Order} (hn : (ids m).Nodup) (hf : m.find id = some o) :
    o.vis ≤ sumVis m ∧ o.hid ≤ sumHid m ∧ 1 ≤ m.length := by
  have := erase_find hn hf; omega

theorem aside_push {m : OMap} {aside : List Order} {o u : Order} (hA : (ids aside).Nodup)
    (hD : ∀ x ∈ ids aside, x ∉ ids m) (hom : o.id ∈ ids m) (hid : u.id = o.id) :
    (ids (aside ++ [u])).Nodup ∧ ∀ x ∈ ids (aside ++ [u]), x ∉ ids (m.erase o.id) := by
  simp only [ids_append, ids_cons, ids_nil, List.mem_append, List.mem_singleton, hid]
  refine ⟨nodup_snoc.2 ⟨hA, fun hx => hD _ hx hom⟩, fun x hx hm => ?_⟩
  · rcases hx with hx | rfl
    · exact hD x hx (mem_ids_erase.1 hm).1
    · exact not_mem_ids_erase _ _ hm

theorem aside_requeue {m : OMap} {aside : List Order} {o u : Order} (hD : ∀ x ∈ ids aside, x ∉ ids m)
    (hom : o.id ∈ ids m) (hid : u.id = o.id) : ∀ x ∈ ids aside, x ∉ ids ((m.erase o.id).insert u) := by
  intro x hx hm
  rcases ids_insert.1 hm with hm | rfl
  · exact hD x hx (mem_ids_erase.1 hm).1
  · exact hD _ hx (hid ▸ hom)

theorem AggInv.bounds {m ts a} {o : Order} (h : AggInv m ts a) (hf : m.find o.id = some o) :
    o.vis ≤ a.vis ∧ o.hid ≤ a.hid ∧ 1 ≤ a.cnt ∧ a.vis + a.hid < W ∧ a.cnt < W := by
  have := sumVis_le_of_find h.nodupM hf
  have := h.vis; have := h.hid; have := h.cnt; have := h.fits; have := h.cfits
  omega

/-- the arithmetic half of the invariant survives whenever counters and sums move by the same amounts:
    `dv`, `dh`, `dc` leave; `uv`, taken out of what leaves hidden, is added to the displayed -/
theorem AggInv.move {m ts a m' ts' a'} {dv uv dh dc : Nat} (h : AggInv m ts a)
    (hM : (ids m').Nodup) (hA : (ids a'.aside).Nodup) (hD : ∀ x ∈ ids a'.aside, x ∉ ids m')
    (hC : ∀ x ∈ ids m', x ∈ ts')
    (cv : a'.vis + dv = a.vis + uv) (ch : a'.hid + dh = a.hid) (cc : a'.cnt + dc = a.cnt)
    (mv : sumVis m' + sumVis a'.aside + dv = sumVis m + sumVis a.aside + uv)
    (mh : sumHid m' + sumHid a'.aside + dh = sumHid m + sumHid a.aside)
    (mn : m'.length + a'.aside.length + dc = m.length + a.aside.length) (hud : uv ≤ dh) :
    AggInv m' ts' a' := by
  have := h.vis; have := h.hid; have := h.cnt; have := h.fits; have := h.cfits
  exact ⟨hM, hA, hD, hC, by omega, by omega, by omega, by omega, by omega⟩

theorem AggInv.aside_step {m ts a o m' ts' u} {rem price taker}
    (hp : popLive m ts = some (o, m', ts')) (hu : (matchAgainst o rem).updated = some u)
    (hs : (matchAgainst o rem).consumed = 0 ∧ (matchAgainst o rem).hiddenRed = 0) (h : AggInv m ts a) :
    AggInv m' ts' ((a.visit price taker o (matchAgainst o rem)).pushAside u) := by
  obtain ⟨hf, rfl⟩ := popLive_spec hp
  obtain rfl := ma_aside_eq hu hs
  have he := erase_find h.nodupM hf
  have hpush := aside_push h.nodupA h.disj (mem_ids_of_find hf) rfl
  -- the order moves, unchanged, from the map to the set-aside list; no counter moves
  rw [visit_idle _ _ _ _ _ hs.1]
  refine h.move (dv := 0) (uv := 0) (dh := 0) (dc := 0) (hM := nodup_erase _ h.nodupM)
    (hA := hpush.1) (hD := hpush.2) (hC := covered_pop hp h.covered) (hud := Nat.le_refl _) rfl rfl rfl ?mv ?mh ?mn
  case mv => simp [Acc.pushAside, sumVis_append, sumVis]; omega
  case mh => simp [Acc.pushAside, sumHid_append, sumHid]; omega
  case mn => simp [Acc.pushAside]; omega

theorem AggInv.requeue_step {m ts a o m' ts' u} {rem price taker}
    (hp : popLive m ts = some (o, m', ts')) (hu : (matchAgainst o rem).updated = some u)
    (h : AggInv m ts a) :
    AggInv (m'.insert u) (ts' ++ [u.id])
      ((a.visit price taker o (matchAgainst o rem)).requeue (matchAgainst o rem).hiddenRed) := by
  obtain ⟨hf, rfl⟩ := popLive_spec hp
  have he := erase_find h.nodupM hf
  have hst := ma_stay hu
  have hc := ma_consumed_le o rem
  have hb := h.bounds hf
  have hfresh : u.id ∉ ids (m.erase o.id) := by rw [hst.1]; exact not_mem_ids_erase _ _
  have hins := sum_insert_fresh hfresh
  have hv := visit_vis a price taker o (matchAgainst o rem) (by omega) (by omega)
  have hrq := requeue_vis_hid (a.visit price taker o (matchAgainst o rem)) (matchAgainst o rem).hiddenRed
    (by simp; omega) (by simp; omega) (by omega)
  refine h.move (dv := (matchAgainst o rem).consumed) (uv := (matchAgainst o rem).hiddenRed)
    (dh := (matchAgainst o rem).hiddenRed) (dc := 0) (hM := nodup_insert _ (nodup_erase _ h.nodupM))
    (hA := by simpa using h.nodupA) (hD := by simpa using aside_requeue h.disj (mem_ids_of_find hf) hst.1)
    (hC := covered_insert u (covered_pop hp h.covered)) (hud := Nat.le_refl _) ?cv ?ch ?cc ?mv ?mh ?mn
  case cv => rw [hrq.1]; omega
  case ch => rw [hrq.2]; simp; omega
  case cc => simp
  case mv => simp; omega
  case mh => simp; omega
  case mn => simp; omega

theorem AggInv.leave_step {m ts a o m' ts'} {rem price taker}
    (hp : popLive m ts = some (o, m', ts')) (hu : (matchAgainst o rem).updated = none)
    (h : AggInv m ts a) :
    AggInv m' ts'
      ((a.visit price taker o (matchAgainst o rem)).leave o (matchAgainst o rem).hiddenRed) := by
  obtain ⟨hf, rfl⟩ := popLive_spec hp
  have he := erase_find h.nodupM hf
  have hl := ma_leave hu
  have hb := h.bounds hf
  have hv := visit_vis a price taker o (matchAgainst o rem) (by omega) (by omega)
  have hlv := leave_cnt_hid (a.visit price taker o (matchAgainst o rem)) o (by simp; omega) (by simp; omega)
    (by simp; omega) (by simp; omega)
  rw [hl.2]
  refine h.move (dv := o.vis) (uv := 0) (dh := o.hid) (dc := 1) (hM := nodup_erase _ h.nodupM)
    (hA := by simpa using h.nodupA) (hD := fun x hx hm => h.disj x (by simpa using hx) (mem_ids_erase.1 hm).1)
    (hC := covered_pop hp h.covered) (hud := Nat.zero_le _) ?cv ?ch ?cc ?mv ?mh ?mn
  case cv => simp; omega
  case ch => rw [hlv.2]; simp; omega
  case cc => rw [hlv.1]; simp; omega
  case mv => simp; omega
  case mh => simp; omega
  case mn => simp; omega

theorem matchLoop_agg (price : Nat) (taker : Id) (rem : Nat) (m : OMap) (ts : List Id) (a : Acc)
    (h : AggInv m ts a) :
    AggInv (matchLoop price taker rem m ts a).2.1 (matchLoop price taker rem m ts a).2.2.1
      (matchLoop price taker rem m ts a).2.2.2 := by
  refine matchLoop_ind price taker (fun _ m ts a => AggInv m ts a) ?_ ?_ ?_ ?_ rem m ts a h
  · intro rem m ts a _ hp h
    exact { h with covered := covered_pop_none hp h.covered }
  · intro rem m ts a o m' ts' u hz hp hu hs h; exact h.aside_step hp hu hs
  · intro rem m ts a o m' ts' u _ hp hu _ h; exact h.requeue_step hp hu
  · intro rem m ts a o m' ts' _ hp hu h; exact h.leave_step hp hu

end PLV
