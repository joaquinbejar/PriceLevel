/-
  Helper lemmas for C10 / C11: listing, snapshot and rebuild (`Level.Inv.restore_eq`: what a restore is).
-/
import PLV.Lemmas.Construct

namespace PLV

/-- sorted by timestamp (each element against every later one): what `C10_listing` says of a level's listing -/
def SortedTs : List Order → Prop
  | [] => True
  | x :: rest => (∀ y ∈ rest, x.ts ≤ y.ts) ∧ SortedTs rest

theorem mem_insertByTs {o x : Order} {l : List Order} : x ∈ insertByTs o l ↔ x = o ∨ x ∈ l :=
  (insertByTs_perm o l).mem_iff.trans List.mem_cons

theorem sorted_insertByTs (o : Order) (l : List Order) (h : SortedTs l) : SortedTs (insertByTs o l) := by
  induction l with
  | nil => simp [insertByTs, SortedTs]
  | cons x xs ih =>
    unfold insertByTs
    split
    · rename_i hlt
      refine ⟨?_, h⟩
      intro y hy
      rcases List.mem_cons.1 hy with rfl | hy
      · omega
      · have := h.1 y hy; omega
    · rename_i hge
      refine ⟨?_, ih h.2⟩
      intro y hy
      rcases mem_insertByTs.1 hy with rfl | hy
      · omega
      · exact h.1 y hy

theorem sorted_sortByTs (l : List Order) : SortedTs (sortByTs l) := by
  induction l with
  | nil => trivial
  | cons x xs ih => exact sorted_insertByTs x _ ih

theorem Level.Inv.snapshot_good {l : Level} (h : l.Inv) : l.snapshot.Good := by
  have hs := l.listing_sums
  refine ⟨(perm_ids (sortByTs_perm l.map)).nodup_iff.2 h.nodup, ?_, ?_⟩
  · simp only [Level.snapshot]; rw [hs.1, hs.2.1]; exact h.fits
  · simp only [Level.snapshot]; rw [hs.2.2]; exact h.cfits

/-- **restoring a well-formed level from its own snapshot** gives the same level with the map in listing
    order, the ticket queue rebuilt in that order and the statistics reset -/
theorem Level.Inv.restore_eq {l : Level} (h : l.Inv) :
    Level.fromSnapshot l.snapshot =
      { price := l.price, vis := l.vis, hid := l.hid, cnt := l.cnt, map := l.listing, tickets := ids l.listing } := by
  have hs := l.listing_sums
  rw [Level.fromSnapshot_eq _ h.snapshot_good]
  simp only [Level.snapshot, hs.1, hs.2.1, hs.2.2, h.vis, h.hid, h.cnt]

end PLV
