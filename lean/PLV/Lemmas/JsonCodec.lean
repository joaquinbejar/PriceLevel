/-
  What the codecs of `PLV.Model.Json` have in common: `Codec ok enc dec` says that on the values
  satisfying `ok` (those that fit their Rust types) the encoder yields a clean tree and the decoder
  reads it back, so the text round trip of `JsonRT` applies to it. The lemmas below evaluate
  `clean` and the field lookups of the decoders on an object literal `[(lit "key", value), …]`;
  the codec of each type is in `Props/C17.lean`.
-/
import PLV.Lemmas.JsonRT

namespace PLV.J
open PLV PLV.Text

def Codec {α : Type} (ok : α → Prop) (enc : α → Json) (dec : Json → D α) : Prop :=
  ∀ v, ok v → clean (enc v) = true ∧ dec (enc v) = .ok v

theorem Codec.clean {α : Type} {ok : α → Prop} {enc : α → Json} {dec : Json → D α} (h : Codec ok enc dec) {v : α}
    (hv : ok v) : J.clean (enc v) = true := (h v hv).1

theorem Codec.dec_enc {α : Type} {ok : α → Prop} {enc : α → Json} {dec : Json → D α} (h : Codec ok enc dec) {v : α}
    (hv : ok v) : dec (enc v) = .ok v := (h v hv).2

theorem cleanList_map {α : Type} (enc : α → Json) (l : List α) (h : ∀ x ∈ l, clean (enc x) = true) :
    cleanList (l.map enc) = true := by
  induction l with
  | nil => rfl
  | cons x rest ih =>
    rw [List.map_cons, cleanList, h x (List.mem_cons_self ..), ih fun y hy => h y (List.mem_cons_of_mem _ hy)]
    rfl

theorem Codec.list {α : Type} {ok : α → Prop} {enc : α → Json} {dec : Json → D α} (h : Codec ok enc dec)
    (l : List α) (hl : ∀ x ∈ l, ok x) : cleanList (l.map enc) = true ∧ (l.map enc).mapM dec = .ok l :=
  ⟨cleanList_map enc l fun x hx => h.clean (hl x hx), mapM_show enc dec l fun x hx => h.dec_enc (hl x hx)⟩

theorem Codec.enc_injective {α : Type} {ok : α → Prop} {enc : α → Json} {dec : Json → D α} (h : Codec ok enc dec)
    {a b : α} (ha : ok a) (hb : ok b) (e : enc a = enc b) : a = b :=
  Except.ok.inj ((e ▸ h.dec_enc ha).symm.trans (h.dec_enc hb))

/-- the bytes of the printed tree determine the value: bytes → text (ASCII) → tree (`render_injective`) → value -/
theorem Codec.bytes_injective {α : Type} {ok : α → Prop} {enc : α → Json} {dec : Json → D α} (h : Codec ok enc dec)
    {a b : α} (ha : ok a) (hb : ok b)
    (e : (render (enc a)).map (fun c => UInt8.ofNat c.toNat) = (render (enc b)).map (fun c => UInt8.ofNat c.toNat)) :
    a = b :=
  have ca := h.clean ha
  have cb := h.clean hb
  h.enc_injective ha hb
    (render_injective _ _ ca cb (Text.bytes_injective _ _ (render_ascii _ ca) (render_ascii _ cb) e))

theorem clean_null : clean .null = true := rfl
theorem clean_bool (b : Bool) : clean (.bool b) = true := rfl
theorem clean_str (s : Str) : clean (.str s) = cleanStr s := by rw [clean]
theorem clean_arr (l : List Json) : clean (.arr l) = cleanList l := by rw [clean]
theorem clean_obj (kvs : List (Str × Json)) : clean (.obj kvs) = cleanFields kvs := by rw [clean]
theorem cleanFields_nil : cleanFields [] = true := by rw [cleanFields]
theorem cleanFields_cons (k : Str) (v : Json) (rest : List (Str × Json)) :
    cleanFields ((k, v) :: rest) = (cleanStr k && clean v && cleanFields rest) := by rw [cleanFields]

theorem cleanStr_of_id {s : Str} (h : ∀ c ∈ s, idChar c = true) : cleanStr s = true := by
  apply List.all_eq_true.2
  intro c hc
  obtain ⟨h1, h2, h3⟩ := idChar_range (h c hc)
  have h4 : c ≠ '"' := by rintro rfl; simp at h1
  simp [h3, h4, h2]; omega

theorem cleanStr_lit {l : List Char} (h : cleanStr l = true) : cleanStr (lit (String.ofList l)) = true := by
  rwa [lit_ofList]

theorem clean_id (i : Id) : clean (encId i) = true := cleanStr_of_id (showId_chars i)

theorem clean_uuid (v : Nat) : clean (encUuid v) = true := cleanStr_of_id (showUuid_chars v)

theorem codec_u64 : Codec (· < W) (fun n : Nat => Json.num n) decU64 := fun n h => by
  simp only [W] at h
  exact ⟨decide_eq_true h, if_pos h⟩

theorem clean_nat {n : Nat} (h : n < W) : clean (.num (n : Int)) = true := codec_u64.clean h

theorem decU64_num {n : Nat} (h : n < W) : decU64 (.num n) = .ok n := codec_u64.dec_enc h

theorem decU32_num {n : Nat} (h : n < 4294967296) : decU32 (.num n) = .ok n := if_pos h

theorem codec_i64 : Codec (fun i : Int => -9223372036854775808 ≤ i ∧ i < 9223372036854775808) Json.num decI64 := by
  rintro i ⟨h1, h2⟩
  cases i with
  | ofNat n =>
    have : n < 9223372036854775808 := by simp only [Int.ofNat_eq_natCast] at h2; omega
    exact ⟨decide_eq_true (by omega), if_pos this⟩
  | negSucc n =>
    have : n < 9223372036854775808 := by simp only [Int.negSucc_eq] at h1; omega
    exact ⟨decide_eq_true this, if_pos this⟩

theorem clean_int {i : Int} (h1 : -9223372036854775808 ≤ i) (h2 : i < 9223372036854775808) : clean (.num i) = true :=
  codec_i64.clean ⟨h1, h2⟩

theorem decI64_num {i : Int} (h1 : -9223372036854775808 ≤ i) (h2 : i < 9223372036854775808) : decI64 (.num i) = .ok i :=
  codec_i64.dec_enc ⟨h1, h2⟩

/- Looking a key up in an object literal: one entry at a time, and the side conditions compare
   string literals (`lit_inj`), never character lists. `field` and `bind` are not to be unfolded by
   name on a literal: `simp` then reduces their `match` by evaluating the filter, and the kernel
   replays that evaluation on character lists. -/

/- not by `rfl`: `simp` would then use it as a definitional step and leave no trace in the proof, and the kernel,
   comparing the term before with the term after, evaluates the `field`s in them on character lists -/
theorem ok_bind {α β : Type} (a : α) (f : α → D β) : (Except.ok a >>= f) = f a := by simp only [bind, Except.bind]

theorem countKey_nil (k : String) : countKey k [] = 0 := by simp [countKey]

theorem countKey_skip {k' k : String} (h : k' ≠ k) (v : Json) (rest : List (Str × Json)) :
    countKey k ((lit k', v) :: rest) = countKey k rest := by
  simp [countKey, lit_inj, h]

theorem countKey_hit (k : String) (v : Json) (rest : List (Str × Json)) :
    countKey k ((lit k, v) :: rest) = countKey k rest + 1 := by
  simp [countKey]

theorem field_skip {k' k : String} (h : k' ≠ k) (v : Json) (rest : List (Str × Json)) :
    field ((lit k', v) :: rest) k = field rest k := by
  rw [field, field, List.filter_cons_of_neg (by simpa only [decide_eq_true_eq, lit_inj] using h)]

theorem field_hit {k : String} (v : Json) {rest : List (Str × Json)} (h : countKey k rest = 0) :
    field ((lit k, v) :: rest) k = .ok v := by
  simp only [countKey, List.length_eq_zero_iff] at h
  simp [field.eq_1, h]

theorem fieldOpt_eq (kvs : List (Str × Json)) (k : String) :
    fieldOpt kvs k = match field kvs k with
      | .ok .null => .ok none
      | .ok j => .ok (some j)
      | .error .missing => .ok none
      | .error e => .error e := by
  rw [fieldOpt, field]; split <;> simp
  split <;> simp_all

theorem statField_eq (kvs : List (Str × Json)) (k : String) (d : Nat) :
    statField kvs k d = match field kvs k with
      | .ok j => decU64 j
      | .error .missing => .ok d
      | .error e => .error e := by
  rw [statField, field]; split <;> simp

end PLV.J
