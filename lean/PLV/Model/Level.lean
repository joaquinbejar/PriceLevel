/-
  PLV.Model.Level — the ticket queue (src/price_level/order_queue.rs), the price level with its
  wrapping 64-bit counters (src/price_level/level.rs), statistics counters
  (src/price_level/statistics.rs), match results (src/execution/match_result.rs) and snapshots'
  aggregate refresh (src/price_level/snapshot.rs:51-64).

  Big-step, sequential semantics: one public call = one function.

  The loop of `match_order` is defined by well-founded recursion, so the file also proves what its
  termination argument needs (`popLive_len`, `popLive_sumHid`, `sumHid_insert_le`; two facts about
  `matchAgainst` come from `PLV.Model.MatchRule`, imported for that), and next to `wadd` / `wsub` /
  `sadd` the lemmas that say when they are the plain operations.
-/
import PLV.Model.Order
import PLV.Model.MatchRule

namespace PLV

/-! ## 64-bit wrapping arithmetic (`AtomicU64::fetch_add/fetch_sub`, `usize` = 64 bit) -/

@[reducible] def W : Nat := 18446744073709551616   -- 2^64

def wadd (a b : Nat) : Nat := (a + b) % W
/-- written `(W - b % W) + a` rather than `a + W - …`: addition recurses on its *second* argument, and a
    kernel unfolding of `a + 18446744073709551616` would recurse 2^64 deep -/
def wsub (a b : Nat) : Nat := ((W - b % W) + a) % W
/-- `u64::saturating_add` -/
def sadd (a b : Nat) : Nat := if a + b < W then a + b else W - 1

theorem wadd_eq {a b : Nat} (h : a + b < W) : wadd a b = a + b := by
  unfold wadd; exact Nat.mod_eq_of_lt h

theorem wsub_eq {a b : Nat} (hb : b ≤ a) (ha : a < W) : wsub a b = a - b := by
  unfold wsub
  have h1 : b % W = b := Nat.mod_eq_of_lt (by omega)
  rw [h1]
  have : W - b + a = (a - b) + W := by omega
  rw [this, Nat.add_mod_right]
  exact Nat.mod_eq_of_lt (by omega)

theorem wsub_add {a b : Nat} (hb : b ≤ a) (ha : a < W) : wsub a b + b = a := by
  rw [wsub_eq hb ha]; omega

theorem wadd_one_mod (g n : Nat) : wadd ((g + n) % W) 1 = (g + (n + 1)) % W := by
  unfold wadd; rw [Nat.mod_add_mod]; rfl

theorem sadd_eq {a b : Nat} (h : a + b < W) : sadd a b = a + b := by simp [sadd, h]

theorem mod_W_lt (n : Nat) : n % W < W := Nat.mod_lt _ (by decide)

theorem wadd_lt (a b : Nat) : wadd a b < W := mod_W_lt _
theorem wsub_lt (a b : Nat) : wsub a b < W := mod_W_lt _

/-! ## The map half of `OrderQueue`: `DashMap<OrderId, Arc<Order>>`
    An association list keyed by `Order.id`; iteration order is unspecified in the crate and is
    canonicalised away wherever it is observed. -/

abbrev OMap := List Order

def OMap.find (m : OMap) (id : Id) : Option Order :=
  match m with
  | [] => none
  | o :: rest => if o.id = id then some o else OMap.find rest id

def OMap.erase (m : OMap) (id : Id) : OMap :=
  match m with
  | [] => []
  | o :: rest => if o.id = id then OMap.erase rest id else o :: OMap.erase rest id

/-- `DashMap::insert`: replaces the value stored under the same key. -/
def OMap.insert (m : OMap) (o : Order) : OMap := OMap.erase m o.id ++ [o]

def sumVis : OMap → Nat
  | [] => 0
  | o :: rest => o.vis + sumVis rest

def sumHid : OMap → Nat
  | [] => 0
  | o :: rest => o.hid + sumHid rest

/-! ## `OrderQueue` -/

/-- `OrderQueue::pop` (order_queue.rs:40-52): take tickets from the front until one names an order
    that is still in the map; that order leaves the map. `none` = the ticket queue ran empty. -/
def popLive (m : OMap) : List Id → Option (Order × OMap × List Id)
  | [] => none
  | t :: ts =>
    match m.find t with
    | some o => some (o, m.erase t, ts)
    | none => popLive m ts

/-- the order in which successive `pop`s would hand out the current orders -/
def liveOrder (m : OMap) : List Id → List Order
  | [] => []
  | t :: ts =>
    match m.find t with
    | some o => o :: liveOrder (m.erase t) ts
    | none => liveOrder m ts

structure Q where
  map     : OMap := []
  tickets : List Id := []
  deriving Repr, Inhabited

/-- `OrderQueue::push`: map insert, then ticket append. -/
def Q.push (q : Q) (o : Order) : Q := { map := q.map.insert o, tickets := q.tickets ++ [o.id] }

def Q.pop (q : Q) : Option Order × Q :=
  match popLive q.map q.tickets with
  | some (o, m, ts) => (some o, { map := m, tickets := ts })
  | none => (none, { map := q.map, tickets := [] })

def Q.find (q : Q) (id : Id) : Option Order := q.map.find id

def Q.remove (q : Q) (id : Id) : Option Order × Q :=
  match q.map.find id with
  | some o => (some o, { q with map := q.map.erase id })
  | none => (none, q)

def Q.len (q : Q) : Nat := q.map.length
def Q.isEmpty (q : Q) : Bool := q.map.isEmpty

/-- insertion of `o` into a list sorted by timestamp, after all entries with `ts ≤ o.ts`
    (stable). -/
def insertByTs (o : Order) : List Order → List Order
  | [] => [o]
  | x :: xs => if o.ts < x.ts then o :: x :: xs else x :: insertByTs o xs

/-- `OrderQueue::to_vec`: the map's values, stably sorted by timestamp. The order among equal
    timestamps is the map's iteration order, which the crate leaves unspecified. -/
def sortByTs : List Order → List Order
  | [] => []
  | o :: rest => insertByTs o (sortByTs rest)

def Q.toVec (q : Q) : List Order := sortByTs q.map

def Q.fromVec (os : List Order) : Q := os.foldl Q.push {}

/-! ## Statistics (the five event counters; time-valued fields are not modelled) -/

structure Stats where
  added    : Nat := 0
  removed  : Nat := 0
  executed : Nat := 0
  qty      : Nat := 0
  value    : Nat := 0
  deriving DecidableEq, Repr, Inhabited

/-- `record_execution(quantity, price, _)`; `quantity * price` is modelled wrapping (release
    semantics); histories in scope keep it below 2^64. -/
def Stats.recordExec (s : Stats) (qty price : Nat) : Stats :=
  { s with executed := wadd s.executed 1, qty := wadd s.qty qty,
           value := wadd s.value ((qty * price) % W) }

/-! ## Transactions and match results -/

structure Tx where
  txid      : Nat          -- the generator's counter value the id was derived from
  taker     : Id
  maker     : Id
  price     : Nat
  qty       : Nat
  takerSide : Side
  deriving DecidableEq, Repr, Inhabited

structure MatchResult where
  taker     : Id
  txs       : List Tx := []
  remaining : Nat
  complete  : Bool := false
  filled    : List Id := []
  deriving DecidableEq, Repr, Inhabited

def MatchResult.new (taker : Id) (q : Nat) : MatchResult := { taker := taker, remaining := q }

/-- `MatchResult::add_transaction` (match_result.rs:41-45) -/
def MatchResult.addTx (r : MatchResult) (t : Tx) : MatchResult :=
  let rem := r.remaining - t.qty     -- saturating_sub = truncated subtraction on Nat
  { r with remaining := rem, complete := rem == 0, txs := r.txs ++ [t] }

def sumQty : List Tx → Nat
  | [] => 0
  | t :: ts => t.qty + sumQty ts

def MatchResult.executed (r : MatchResult) : Nat := sumQty r.txs

/-- `MatchResult::executed_value` (match_result.rs:58-64): Σ price · quantity over the transactions -/
def sumValue : List Tx → Nat
  | [] => 0
  | t :: ts => t.price * t.qty + sumValue ts

def MatchResult.executedValue (r : MatchResult) : Nat := sumValue r.txs

/-! ## The level -/

structure Level where
  price   : Nat
  vis     : Nat := 0        -- AtomicU64, wrapping
  hid     : Nat := 0        -- AtomicU64, wrapping
  cnt     : Nat := 0        -- AtomicUsize, wrapping
  map     : OMap := []
  tickets : List Id := []
  stats   : Stats := {}
  deriving Repr, Inhabited

def Level.new (p : Nat) : Level := { price := p }

def Level.q (l : Level) : Q := { map := l.map, tickets := l.tickets }

/-- `PriceLevel::add_order` (level.rs:115-134) -/
def Level.addOrder (l : Level) (o : Order) : Level :=
  { l with vis := wadd l.vis o.vis, hid := wadd l.hid o.hid, cnt := wadd l.cnt 1,
           stats := { l.stats with added := wadd l.stats.added 1 },
           map := l.map.insert o, tickets := l.tickets ++ [o.id] }

/-- `iter_orders` -/
def Level.listing (l : Level) : List Order := sortByTs l.map

/-- Everything `match_order` accumulates besides the queue itself. -/
structure Acc where
  vis    : Nat
  hid    : Nat
  cnt    : Nat
  stats  : Stats
  g      : Nat              -- UuidGenerator counter (wrapping u64)
  txs    : List Tx := []
  filled : List Id := []
  aside  : List Order := [] -- orders that made no progress, re-queued before returning
  deriving Repr, Inhabited

/-- Bookkeeping of one maker visit up to and including the statistics update. -/
def Acc.visit (a : Acc) (price : Nat) (taker : Id) (o : Order) (r : MatchOut) : Acc :=
  let a1 : Acc :=
    if r.consumed > 0 then
      { a with vis := wsub a.vis r.consumed, g := wadd a.g 1,
               txs := a.txs ++ [⟨a.g, taker, o.id, price, r.consumed, o.side.opposite⟩],
               filled := if r.updated.isNone then a.filled ++ [o.id] else a.filled }
    else a
  { a1 with stats := a1.stats.recordExec r.consumed o.price }

/-- an order that made no progress is kept out of the queue until the match is over -/
def Acc.pushAside (a : Acc) (u : Order) : Acc := { a with aside := a.aside ++ [u] }

/-- the counter updates done when the visited maker is re-queued -/
def Acc.requeue (a : Acc) (hr : Nat) : Acc :=
  if hr > 0 then { a with hid := wsub a.hid hr, vis := wadd a.vis hr } else a

/-- the counter updates done when the visited maker leaves the book -/
def Acc.leave (a : Acc) (o : Order) (hr : Nat) : Acc :=
  { a with cnt := wsub a.cnt 1,
           hid := if o.kind.hasHidden && decide (o.hid > 0) && hr == 0 then wsub a.hid o.hid else a.hid }

/-- `pop` drops the tickets whose order is gone and hands out the order of the first ticket that is left -/
theorem popLive_eq_dropWhile (m : OMap) (ts : List Id) :
    popLive m ts =
      match ts.dropWhile (fun t => (m.find t).isNone) with
      | [] => none
      | t :: ts' => (m.find t).map fun o => (o, m.erase t, ts') := by
  induction ts with
  | nil => rfl
  | cons t r ih => cases hf : m.find t <;> simp [popLive, hf, ih]

theorem popLive_split {m : OMap} {ts : List Id} {o m' ts'} (h : popLive m ts = some (o, m', ts')) :
    ∃ pre t, ts = pre ++ t :: ts' ∧ (∀ x ∈ pre, m.find x = none) ∧ m.find t = some o ∧ m' = m.erase t := by
  rw [popLive_eq_dropWhile] at h
  split at h
  · cases h
  · rename_i t r hd
    cases hf : m.find t <;> simp [hf] at h
    obtain ⟨rfl, rfl, rfl⟩ := h
    -- `pre` is the dropped prefix
    refine ⟨_, t, by rw [← hd, List.takeWhile_append_dropWhile], fun x hx => ?_, hf, rfl⟩
    simpa using List.all_eq_true.1 List.all_takeWhile x hx

theorem popLive_len {m : OMap} {ts : List Id} {o m' ts'} (h : popLive m ts = some (o, m', ts')) :
    ts'.length < ts.length := by
  obtain ⟨pre, t, rfl, _⟩ := popLive_split h
  simp; omega

theorem sumHid_erase_le (m : OMap) (id : Id) : sumHid (m.erase id) ≤ sumHid m := by
  induction m with
  | nil => simp [OMap.erase, sumHid]
  | cons x rest ih =>
    unfold OMap.erase
    split
    · simp [sumHid]; omega
    · simp [sumHid]; omega

theorem sumHid_append (a b : OMap) : sumHid (a ++ b) = sumHid a + sumHid b := by
  induction a with
  | nil => simp [sumHid]
  | cons x rest ih => simp [sumHid, ih]; omega

theorem sumHid_find_erase {m : OMap} {id : Id} {o : Order} (h : m.find id = some o) :
    sumHid (m.erase id) + o.hid ≤ sumHid m := by
  induction m with
  | nil => simp [OMap.find] at h
  | cons x rest ih =>
    unfold OMap.find at h
    unfold OMap.erase
    split at h
    · simp at h; subst h
      rename_i hx
      simp [hx, sumHid]
      have := sumHid_erase_le rest id
      omega
    · rename_i hx
      simp [hx, sumHid]
      have := ih h
      omega

theorem popLive_sumHid {m : OMap} {ts : List Id} {o m' ts'} (h : popLive m ts = some (o, m', ts')) :
    sumHid m' + o.hid ≤ sumHid m := by
  obtain ⟨_, t, _, _, hf, rfl⟩ := popLive_split h
  exact sumHid_find_erase hf

theorem sumHid_insert_le (m : OMap) (u : Order) : sumHid (m.insert u) ≤ sumHid m + u.hid := by
  unfold OMap.insert
  rw [sumHid_append]
  have := sumHid_erase_le m u.id
  simp [sumHid]; omega

/-- The loop of `match_order` (level.rs:170-243, with the set-aside list). Total: the measure is
    `(remaining + Σ hidden in the map, number of tickets)`, lexicographic. -/
def matchLoop (price : Nat) (taker : Id) (rem : Nat) (m : OMap) (ts : List Id) (a : Acc) :
    Nat × OMap × List Id × Acc :=
  if hz : rem = 0 then (rem, m, ts, a) else
  match hp : popLive m ts with
  | none => (rem, m, [], a)
  | some (o, m', ts') =>
    let r := matchAgainst o rem
    let a2 := a.visit price taker o r
    match hu : r.updated with
    | some u =>
      if hs : r.consumed = 0 ∧ r.hiddenRed = 0 then
        matchLoop price taker r.remaining m' ts' (a2.pushAside u)
      else
        matchLoop price taker r.remaining (m'.insert u) (ts' ++ [u.id]) (a2.requeue r.hiddenRed)
    | none =>
      matchLoop price taker r.remaining m' ts' (a2.leave o r.hiddenRed)
termination_by (rem + sumHid m, ts.length)
decreasing_by
  · have h1 := popLive_len hp
    have h2 := popLive_sumHid hp
    have h3 := matchAgainst_remaining_le o rem
    simp only [Prod.lex_def]
    omega
  · have h1 := popLive_sumHid hp
    have h3 := visit_progress o rem u hz hu hs
    have h4 := sumHid_insert_le m' u
    simp only [Prod.lex_def]
    left; omega
  · have h1 := popLive_len hp
    have h2 := popLive_sumHid hp
    have h3 := matchAgainst_remaining_le o rem
    simp only [Prod.lex_def]
    omega

/-! the loop's defining equations, one per way a round can go -/

theorem matchLoop_zero (price : Nat) (taker : Id) (m : OMap) (ts : List Id) (a : Acc) :
    matchLoop price taker 0 m ts a = (0, m, ts, a) := by
  rw [matchLoop]; simp

theorem matchLoop_none (price : Nat) (taker : Id) (rem : Nat) (m : OMap) (ts : List Id) (a : Acc) (hz : rem ≠ 0)
    (hp : popLive m ts = none) : matchLoop price taker rem m ts a = (rem, m, [], a) := by
  rw [matchLoop]; simp only [dif_neg hz]
  split
  · rfl
  · rename_i heq; rw [hp] at heq; cases heq

theorem matchLoop_some (price : Nat) (taker : Id) (rem : Nat) (m : OMap) (ts : List Id) (a : Acc) (hz : rem ≠ 0)
    {o : Order} {m' : OMap} {ts' : List Id} (hp : popLive m ts = some (o, m', ts')) :
    matchLoop price taker rem m ts a =
      (match (matchAgainst o rem).updated with
       | some u =>
         if (matchAgainst o rem).consumed = 0 ∧ (matchAgainst o rem).hiddenRed = 0 then
           matchLoop price taker (matchAgainst o rem).remaining m' ts' ((a.visit price taker o (matchAgainst o rem)).pushAside u)
         else
           matchLoop price taker (matchAgainst o rem).remaining (m'.insert u) (ts' ++ [u.id])
             ((a.visit price taker o (matchAgainst o rem)).requeue (matchAgainst o rem).hiddenRed)
       | none =>
         matchLoop price taker (matchAgainst o rem).remaining m' ts'
           ((a.visit price taker o (matchAgainst o rem)).leave o (matchAgainst o rem).hiddenRed)) := by
  rw [matchLoop]; simp only [dif_neg hz]
  split
  · rename_i heq; rw [hp] at heq; cases heq
  · rename_i heq
    rw [hp] at heq; cases heq
    split
    · rename_i u hu; simp only [hu]; split <;> rfl
    · rename_i hu; simp only [hu]

/-- re-queue the set-aside orders (`for order in set_aside { self.orders.push(..) }`) -/
def requeueAside (m : OMap) (ts : List Id) : List Order → OMap × List Id
  | [] => (m, ts)
  | o :: rest => requeueAside (m.insert o) (ts ++ [o.id]) rest

/-- what `match_order` does once its loop has stopped: re-queue the set-aside orders, publish the
    result -/
def Level.finishMatch (l : Level) (taker : Id) (res : Nat × OMap × List Id × Acc) :
    Level × MatchResult × Nat :=
  let a := res.2.2.2
  let rq := requeueAside res.2.1 res.2.2.1 a.aside
  ({ l with vis := a.vis, hid := a.hid, cnt := a.cnt, stats := a.stats, map := rq.1, tickets := rq.2 },
   { taker := taker, txs := a.txs, remaining := res.1, complete := res.1 == 0, filled := a.filled },
   a.g)

/-- `PriceLevel::match_order` (level.rs:161-249). `g` is the transaction-id generator's counter. -/
def Level.matchOrder (l : Level) (q : Nat) (taker : Id) (g : Nat) : Level × MatchResult × Nat :=
  l.finishMatch taker (matchLoop l.price taker q l.map l.tickets
      { vis := l.vis, hid := l.hid, cnt := l.cnt, stats := l.stats, g := g })

/-! ## `update_order` -/

inductive Update where
  | price (id : Id) (newPrice : Nat)
  | quantity (id : Id) (newQty : Nat)
  | priceQty (id : Id) (newPrice newQty : Nat)
  | cancel (id : Id)
  | replace (id : Id) (price qty : Nat) (side : Side)
  deriving DecidableEq, Repr, Inhabited

inductive UpdOut where
  | ok (o : Option Order)
  | errSamePrice                 -- `InvalidOperation` "Cannot update price to the same value"
  deriving DecidableEq, Repr, Inhabited

/-- the shared body of Cancel and of the three "price differs" arms (level.rs:286-303 etc.) -/
def Level.removeOrder (l : Level) (id : Id) : Level × UpdOut :=
  match l.map.find id with
  | none => (l, .ok none)
  | some o =>
    ({ l with map := l.map.erase id,
              vis := wsub l.vis o.vis, hid := wsub l.hid o.hid, cnt := wsub l.cnt 1,
              stats := { l.stats with removed := wadd l.stats.removed 1 } },
     .ok (some o))

/-- `fetch_add`/`fetch_sub` of the difference, skipped when equal (level.rs:337-355) -/
def adjust (c old new : Nat) : Nat :=
  if old = new then c else if new > old then wadd c (new - old) else wsub c (old - new)

/-- the `UpdateQuantity` arm (level.rs:313-365); sequentially the `find` and the `remove` see the
    same order. -/
def Level.amend (l : Level) (id : Id) (newQty : Nat) : Level × UpdOut :=
  match l.map.find id with
  | none => (l, .ok none)
  | some old =>
    let new := old.withReduced newQty
    ({ l with vis := adjust l.vis old.vis new.vis, hid := adjust l.hid old.hid new.hid,
              map := (l.map.erase id).insert new, tickets := l.tickets ++ [id] },
     .ok (some new))

/-- `PriceLevel::update_order` (level.rs:275-455) -/
def Level.update (l : Level) : Update → Level × UpdOut
  | .price id p => if p ≠ l.price then l.removeOrder id else (l, .errSamePrice)
  | .quantity id n => l.amend id n
  | .priceQty id p n => if p ≠ l.price then l.removeOrder id else l.amend id n
  | .cancel id => l.removeOrder id
  | .replace id p n _ => if p ≠ l.price then l.removeOrder id else l.amend id n

/-! ## Snapshots (content only; packages and checksums are in `PLV.Model.Snapshot`) -/

structure Snapshot where
  price  : Nat
  vis    : Nat
  hid    : Nat
  cnt    : Nat
  orders : List Order
  deriving DecidableEq, Repr, Inhabited

def satSumVis : List Order → Nat
  | [] => 0
  | o :: rest => sadd o.vis (satSumVis rest)

/-- Σ with `saturating_add`, folded from the left as the code does. -/
def satFold (f : Order → Nat) (os : List Order) : Nat := os.foldl (fun acc o => sadd acc (f o)) 0

/-- `PriceLevelSnapshot::refresh_aggregates` (snapshot.rs:51-64) -/
def Snapshot.refresh (s : Snapshot) : Snapshot :=
  { s with cnt := s.orders.length, vis := satFold Order.vis s.orders, hid := satFold Order.hid s.orders }

/-- `PriceLevel::snapshot` -/
def Level.snapshot (l : Level) : Snapshot :=
  { price := l.price, vis := l.vis, hid := l.hid, cnt := l.cnt, orders := l.listing }

/-- `PriceLevel::from_snapshot` and `From<&PriceLevelSnapshot>` (level.rs:40-54, 489-506) -/
def Level.fromSnapshot (s : Snapshot) : Level :=
  let s' := s.refresh
  let q := Q.fromVec s'.orders
  { price := s'.price, vis := s'.vis, hid := s'.hid, cnt := s'.cnt, map := q.map, tickets := q.tickets }

/-- `TryFrom<PriceLevelData>` / serde / text constructors: `new(price)` then `add_order` each. -/
def Level.fromOrders (p : Nat) (os : List Order) : Level := os.foldl Level.addOrder (Level.new p)

end PLV
