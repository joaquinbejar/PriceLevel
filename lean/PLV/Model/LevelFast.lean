/-
  PLV.Model.LevelFast — the match loop with its three output lists built in reverse (cons instead of
  append at the end), proved equal to `matchLoop` and registered with `@[csimp]`, so that the COMPILED
  driver runs a sweep of n visits in O(n) instead of O(n²). No theorem about the model mentions this
  file; the only thing it contributes is `matchLoop_eq_fast`, which the kernel checks like any other
  theorem (csimp accepts nothing but a proved equation between the two constants).
-/
import PLV.Model.Level

namespace PLV

/-- the accumulator with `txs`, `filled`, `aside` reversed -/
def Acc.rev (a : Acc) : Acc := { a with txs := a.txs.reverse, filled := a.filled.reverse, aside := a.aside.reverse }

theorem Acc.rev_rev (a : Acc) : a.rev.rev = a := by simp [Acc.rev]

/-- `Acc.visit` on the reversed representation -/
def Acc.visitR (a : Acc) (price : Nat) (taker : Id) (o : Order) (r : MatchOut) : Acc :=
  let a1 : Acc :=
    if r.consumed > 0 then
      { a with vis := wsub a.vis r.consumed, g := wadd a.g 1,
               txs := ⟨a.g, taker, o.id, price, r.consumed, o.side.opposite⟩ :: a.txs,
               filled := if r.updated.isNone then o.id :: a.filled else a.filled }
    else a
  { a1 with stats := a1.stats.recordExec r.consumed o.price }

def Acc.pushAsideR (a : Acc) (u : Order) : Acc := { a with aside := u :: a.aside }

theorem visitR_rev (a : Acc) (price : Nat) (taker : Id) (o : Order) (r : MatchOut) :
    (a.visitR price taker o r).rev = a.rev.visit price taker o r := by
  unfold Acc.visit Acc.visitR Acc.rev
  by_cases h : r.consumed > 0
  · by_cases h2 : r.updated.isNone <;> simp [h, h2]
  · simp [h]

theorem pushAsideR_rev (a : Acc) (u : Order) : (a.pushAsideR u).rev = a.rev.pushAside u := by
  simp [Acc.pushAside, Acc.pushAsideR, Acc.rev]

theorem requeue_rev (a : Acc) (hr : Nat) : (a.requeue hr).rev = a.rev.requeue hr := by
  unfold Acc.requeue Acc.rev
  by_cases h : hr > 0 <;> simp [h]

theorem leave_rev (a : Acc) (o : Order) (hr : Nat) : (a.leave o hr).rev = a.rev.leave o hr := by
  simp [Acc.leave, Acc.rev]

/-- the same loop on the reversed accumulator -/
def matchLoopR (price : Nat) (taker : Id) (rem : Nat) (m : OMap) (ts : List Id) (a : Acc) :
    Nat × OMap × List Id × Acc :=
  if hz : rem = 0 then (rem, m, ts, a) else
  match hp : popLive m ts with
  | none => (rem, m, [], a)
  | some (o, m', ts') =>
    let r := matchAgainst o rem
    let a2 := a.visitR price taker o r
    match hu : r.updated with
    | some u =>
      if hs : r.consumed = 0 ∧ r.hiddenRed = 0 then
        matchLoopR price taker r.remaining m' ts' (a2.pushAsideR u)
      else
        matchLoopR price taker r.remaining (m'.insert u) (ts' ++ [u.id]) (a2.requeue r.hiddenRed)
    | none =>
      matchLoopR price taker r.remaining m' ts' (a2.leave o r.hiddenRed)
termination_by (rem + sumHid m, ts.length)
decreasing_by
  · have h1 := popLive_len hp
    have h2 := popLive_sumHid hp
    have h3 := matchAgainst_remaining_le o rem
    simp only [Prod.lex_def]
    omega
  · have h1 := popLive_sumHid hp
    have h3 := visit_progress o rem u hz hu hs
    have h4 := sumHid_insert_le m' u
    simp only [Prod.lex_def]
    left; omega
  · have h1 := popLive_len hp
    have h2 := popLive_sumHid hp
    have h3 := matchAgainst_remaining_le o rem
    simp only [Prod.lex_def]
    omega

/-- lockstep: the loop on the reversed accumulator, its lists turned back at the end, is the loop -/
theorem matchLoopR_eq (price : Nat) (taker : Id) (rem : Nat) (m : OMap) (ts : List Id) (a : Acc) :
    matchLoop price taker rem m ts a.rev =
      ((matchLoopR price taker rem m ts a).1, (matchLoopR price taker rem m ts a).2.1,
        (matchLoopR price taker rem m ts a).2.2.1, (matchLoopR price taker rem m ts a).2.2.2.rev) := by
  fun_induction matchLoopR price taker rem m ts a with
  | case1 m ts a => exact matchLoop_zero ..
  | case2 rem m ts a hz hp => exact matchLoop_none _ _ _ _ _ _ hz hp
  | case3 rem m ts a hz o m' ts' hp r a2 u hu hs ih =>
    rw [matchLoop_some _ _ _ _ _ _ hz hp, show (matchAgainst o rem).updated = some u from hu]
    simp only [if_pos (show (matchAgainst o rem).consumed = 0 ∧ (matchAgainst o rem).hiddenRed = 0 from hs)]
    rw [← ih, pushAsideR_rev, visitR_rev]
  | case4 rem m ts a hz o m' ts' hp r a2 u hu hs ih =>
    rw [matchLoop_some _ _ _ _ _ _ hz hp, show (matchAgainst o rem).updated = some u from hu]
    simp only [if_neg (show ¬ ((matchAgainst o rem).consumed = 0 ∧ (matchAgainst o rem).hiddenRed = 0) from hs)]
    rw [← ih, requeue_rev, visitR_rev]
  | case5 rem m ts a hz o m' ts' hp r a2 hu ih =>
    rw [matchLoop_some _ _ _ _ _ _ hz hp, show (matchAgainst o rem).updated = none from hu]
    simp only
    rw [← ih, leave_rev, visitR_rev]

/-- what the compiled driver runs instead of `matchLoop` -/
def matchLoopFast (price : Nat) (taker : Id) (rem : Nat) (m : OMap) (ts : List Id) (a : Acc) :
    Nat × OMap × List Id × Acc :=
  let r := matchLoopR price taker rem m ts a.rev
  (r.1, r.2.1, r.2.2.1, r.2.2.2.rev)

@[csimp] theorem matchLoop_eq_fast : @matchLoop = @matchLoopFast := by
  funext price taker rem m ts a
  have h := matchLoopR_eq price taker rem m ts a.rev
  rwa [Acc.rev_rev] at h

/-- `Level.matchOrder` again, compiled after `matchLoop_eq_fast` (so its loop is the fast one) -/
def Level.matchOrderFast (l : Level) (q : Nat) (taker : Id) (g : Nat) : Level × MatchResult × Nat :=
  l.finishMatch taker (matchLoop l.price taker q l.map l.tickets
      { vis := l.vis, hid := l.hid, cnt := l.cnt, stats := l.stats, g := g })

@[csimp] theorem matchOrder_eq_fast : @Level.matchOrder = @Level.matchOrderFast := rfl

end PLV
