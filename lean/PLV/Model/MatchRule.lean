/-
  The per-order rule `matchAgainst` in one equation (`matchAgainst_eq`), and `Order.refresh` likewise
  (`refresh_eq`). A visit consumes `min q displayed`; what else happens depends on one decision, the
  refill: how much moves from hidden to displayed (`Order.refill`). The order leaves when its display is
  exhausted and nothing is refilled; otherwise it stays, with the refill moved over. Every other fact
  about the rule used in this development is read off these equations.
  Precedes `PLV.Model.Level`: the termination proof of the match loop needs two of those facts.
-/
import PLV.Model.Order

namespace PLV

/-- how much a visit with incoming quantity `q` moves from hidden to displayed; `none` = no replenishment
    (the iceberg and reserve arms of `match_against`, order_type.rs:417-649) -/
def Order.refill (o : Order) (q : Nat) : Option Nat :=
  match o.kind with
  | .iceberg h => if o.vis ≤ q ∧ 0 < h then some (min h o.vis) else none
  | .reserve h thr amt auto =>
    if auto = true ∧ 0 < h ∧ (o.vis ≤ q ∨ o.vis - q < if auto && thr == 0 then 1 else thr) then
      some (min (amt.getD defaultReplenish) h) else none
  | _ => none

theorem Order.refill_iceberg {o : Order} {h : Nat} (hk : o.kind = .iceberg h) (q : Nat) :
    o.refill q = if o.vis ≤ q ∧ 0 < h then some (min h o.vis) else none := by
  rw [Order.refill, hk]

theorem Order.refill_reserve {o : Order} {h thr : Nat} {amt : Option Nat} {auto : Bool}
    (hk : o.kind = .reserve h thr amt auto) (q : Nat) :
    o.refill q =
      if auto = true ∧ 0 < h ∧ (o.vis ≤ q ∨ o.vis - q < if auto && thr == 0 then 1 else thr) then
        some (min (amt.getD defaultReplenish) h) else none := by
  rw [Order.refill, hk]

theorem Kind.hasHidden_setHidden (k : Kind) (x : Nat) : (k.setHidden x).hasHidden = k.hasHidden := by
  cases k <;> rfl

theorem Kind.hidden_setHidden (k : Kind) (x : Nat) : (k.setHidden x).hidden = if k.hasHidden then x else 0 := by
  cases k <;> rfl

theorem Kind.hidden_setHidden_sub (k : Kind) (r : Nat) : (k.setHidden (k.hidden - r)).hidden = k.hidden - r := by
  cases k <;> simp [Kind.setHidden, Kind.hidden]

theorem Kind.setHidden_hidden (k : Kind) : k.setHidden k.hidden = k := by
  cases k <;> rfl

/-! `with_reduced_quantity` rewrites the displayed quantity only -/

theorem withReduced_id (o : Order) (n : Nat) : (o.withReduced n).id = o.id := by
  unfold Order.withReduced; split <;> rfl

theorem withReduced_hid (o : Order) (n : Nat) : (o.withReduced n).hid = o.hid := by
  unfold Order.withReduced; split <;> simp_all [Order.hid]

theorem withReduced_price (o : Order) (n : Nat) : (o.withReduced n).price = o.price := by
  unfold Order.withReduced; split <;> rfl

theorem withReduced_vis_le (o : Order) (n : Nat) : (o.withReduced n).vis ≤ o.vis + n := by
  unfold Order.withReduced; split <;> simp <;> omega

theorem hid_of_plain (o : Order) (h : o.kind.hasHidden = false) : o.hid = 0 := by
  obtain ⟨id, price, vis, side, ts, tif, kind⟩ := o
  cases kind <;> simp_all [Kind.hasHidden, Order.hid, Kind.hidden]

theorem Order.refill_plain {o : Order} (hk : o.kind.hasHidden = false) (q : Nat) : o.refill q = none := by
  unfold Order.refill; cases hk' : o.kind <;> simp_all [Kind.hasHidden]

/-- a refill is a `min` with the hidden quantity -/
theorem Order.refill_le {o : Order} {q r : Nat} (h : o.refill q = some r) : r ≤ o.hid := by
  cases hk : o.kind with
  | iceberg x =>
    rw [Order.refill_iceberg hk, Option.ite_none_right_eq_some] at h
    rw [← Option.some.inj h.2, Order.hid, hk]; exact Nat.min_le_left ..
  | reserve x thr amt auto =>
    rw [Order.refill_reserve hk, Option.ite_none_right_eq_some] at h
    rw [← Option.some.inj h.2, Order.hid, hk]; exact Nat.min_le_right ..
  | _ => rw [Order.refill_plain (by rw [hk]; rfl)] at h; cases h

theorem matchAgainst_eq (o : Order) (q : Nat) :
    matchAgainst o q =
      { consumed := min q o.vis
        updated :=
          if o.vis ≤ q ∧ o.refill q = none then none
          else some { o with vis := o.vis - min q o.vis + (o.refill q).getD 0,
                             kind := o.kind.setHidden (o.hid - (o.refill q).getD 0) }
        hiddenRed := (o.refill q).getD 0
        remaining := q - min q o.vis } := by
  obtain ⟨id, price, vis, side, ts, tif, kind⟩ := o
  -- display exhausted or not first, then the kinds: each goal then has at most one decision left
  -- (all kinds at once, with every `if` split, costs six times as much)
  by_cases hv : vis ≤ q
  · have hm : min q vis = vis := Nat.min_eq_right hv
    cases kind <;> simp only [matchAgainst, Order.refill, Order.hid, Kind.hidden, Kind.setHidden, hv, hm, if_true,
      true_and, true_or, and_true, Nat.sub_self, Nat.zero_add]
    case iceberg h => by_cases hh : 0 < h <;> simp [hh]
    case reserve h thr amt auto => by_cases hh : 0 < h <;> cases auto <;> simp [hh]
    all_goals simp
  · have hm : min q vis = q := Nat.min_eq_left (by omega)
    cases kind <;> simp only [matchAgainst, Order.refill, Order.hid, Kind.hidden, Kind.setHidden, hv, hm, if_false,
      false_and, false_or]
    case reserve h thr amt auto =>
      by_cases hh : 0 < h <;> cases auto <;> simp [hh]
      by_cases ht : vis - q < (if thr = 0 then 1 else thr) <;> simp [ht]
    all_goals simp

theorem ma_consumed (o : Order) (q : Nat) : (matchAgainst o q).consumed = min q o.vis := by rw [matchAgainst_eq]
theorem ma_remaining (o : Order) (q : Nat) : (matchAgainst o q).remaining = q - min q o.vis := by rw [matchAgainst_eq]
theorem ma_hiddenRed (o : Order) (q : Nat) : (matchAgainst o q).hiddenRed = (o.refill q).getD 0 := by
  rw [matchAgainst_eq]

theorem ma_some {o u : Order} {q : Nat} (h : (matchAgainst o q).updated = some u) :
    u = { o with vis := o.vis - (matchAgainst o q).consumed + (matchAgainst o q).hiddenRed,
                 kind := o.kind.setHidden (o.hid - (matchAgainst o q).hiddenRed) } ∧
      (matchAgainst o q).hiddenRed ≤ o.hid ∧ (o.vis ≤ q → o.refill q ≠ none) := by
  rw [matchAgainst_eq] at h ⊢
  simp only at h ⊢
  split at h
  · cases h
  · rename_i hc
    refine ⟨(Option.some.inj h).symm, ?_, fun hv hn => hc ⟨hv, hn⟩⟩
    cases hr : o.refill q with
    | none => simp
    | some r => exact Order.refill_le hr

theorem ma_none {o : Order} {q : Nat} (h : (matchAgainst o q).updated = none) :
    o.vis ≤ q ∧ o.refill q = none := by
  rw [matchAgainst_eq] at h
  simp only at h
  split at h
  · assumption
  · cases h

theorem ma_acct (o : Order) (q : Nat) :
    (matchAgainst o q).consumed + (matchAgainst o q).remaining = q := by
  rw [ma_consumed, ma_remaining]; omega

theorem ma_consumed_le (o : Order) (q : Nat) : (matchAgainst o q).consumed ≤ o.vis := by
  rw [ma_consumed]; omega

theorem matchAgainst_remaining_le (o : Order) (q : Nat) : (matchAgainst o q).remaining ≤ q := by
  rw [ma_remaining]; omega

theorem ma_leave {o : Order} {q : Nat} (h : (matchAgainst o q).updated = none) :
    (matchAgainst o q).consumed = o.vis ∧ (matchAgainst o q).hiddenRed = 0 := by
  obtain ⟨hv, hr⟩ := ma_none h
  rw [ma_consumed, ma_hiddenRed, hr]; exact ⟨by omega, rfl⟩

theorem ma_stay {o u : Order} {q : Nat} (h : (matchAgainst o q).updated = some u) :
    u.id = o.id ∧ u.vis + (matchAgainst o q).consumed = o.vis + (matchAgainst o q).hiddenRed ∧
      u.hid + (matchAgainst o q).hiddenRed = o.hid := by
  obtain ⟨rfl, hr, _⟩ := ma_some h
  have := ma_consumed_le o q
  refine ⟨rfl, by simp only; omega, ?_⟩
  simp only [Order.hid, Kind.hidden_setHidden_sub] at hr ⊢; omega

theorem ma_stay_fields {o u : Order} {q : Nat} (h : (matchAgainst o q).updated = some u) :
    u.id = o.id ∧ u.price = o.price ∧ u.side = o.side ∧ u.ts = o.ts ∧ u.tif = o.tif := by
  obtain ⟨rfl, _⟩ := ma_some h; exact ⟨rfl, rfl, rfl, rfl, rfl⟩

theorem ma_idle {o : Order} {q : Nat} (hq : q ≠ 0) (h : (matchAgainst o q).consumed = 0) : o.vis = 0 := by
  rw [ma_consumed] at h; omega

theorem ma_aside_eq {o u : Order} {q : Nat} (h : (matchAgainst o q).updated = some u)
    (h0 : (matchAgainst o q).consumed = 0 ∧ (matchAgainst o q).hiddenRed = 0) : u = o := by
  obtain ⟨rfl, _⟩ := ma_some h
  rw [h0.1, h0.2]; simp [Order.hid, Kind.setHidden_hidden]

/-- a visited order that stays in the queue lowers `remaining + hidden` (termination of the match loop).
    `q ≠ 0` is unused; `matchLoop`'s `decreasing_by` passes it. -/
theorem visit_progress (o : Order) (q : Nat) (u : Order) (_ : q ≠ 0)
    (hu : (matchAgainst o q).updated = some u)
    (hp : ¬ ((matchAgainst o q).consumed = 0 ∧ (matchAgainst o q).hiddenRed = 0)) :
    (matchAgainst o q).remaining + u.hid < q + o.hid := by
  have := ma_stay hu; have := ma_acct o q; omega

/-- an exhausted display is refilled whenever the kind allows a refill at all: if `u`, exhausted, gets none,
    no order of its kind ever gets one -/
theorem Order.refill_none_of_exhausted {o u : Order} {q q' : Nat} (hk : u.kind = o.kind) (hu : u.vis ≤ q')
    (h : u.refill q' = none) : o.refill q = none := by
  cases ho : o.kind with
  | iceberg x =>
    rw [Order.refill_iceberg (hk.trans ho)] at h
    rw [Order.refill_iceberg ho]
    have : ¬ 0 < x := fun hx => by rw [if_pos ⟨hu, hx⟩] at h; cases h
    exact if_neg fun c => this c.2
  | reserve x thr amt auto =>
    rw [Order.refill_reserve (hk.trans ho)] at h
    rw [Order.refill_reserve ho]
    have : ¬ (auto = true ∧ 0 < x) := fun hx => by rw [if_pos ⟨hx.1, hx.2, .inl hu⟩] at h; cases h
    exact if_neg fun c => this ⟨c.1, c.2.1⟩
  | _ => exact Order.refill_plain (by rw [ho]; rfl) q

/-- an order that stays either displays something or can never be told to leave -/
theorem ma_sticky {o u : Order} {q : Nat} (hu : (matchAgainst o q).updated = some u) :
    0 < u.vis ∨ ∀ q', (matchAgainst u q').updated ≠ none := by
  obtain ⟨rfl, -, hne⟩ := ma_some hu
  rw [ma_consumed, ma_hiddenRed]
  -- otherwise the display was exhausted and the refill was 0: the order is as before but for its display, and an
  -- exhausted display of its kind is refilled on every later visit too
  refine Classical.or_iff_not_imp_left.2 fun hv q' hn => ?_
  simp only [Nat.not_lt, Nat.le_zero, Nat.add_eq_zero_iff] at hv
  refine hne (by omega) (Order.refill_none_of_exhausted (q' := q') ?_ ?_ (ma_none hn).2)
  · simp only [hv.2, Nat.sub_zero, Order.hid, Kind.setHidden_hidden]
  · simp only [hv.1, hv.2]; exact Nat.zero_le _

theorem refresh_eq (o : Order) (n : Nat) :
    o.refresh n =
      if o.kind.hasHidden then ({ o with vis := n, kind := o.kind.setHidden (o.hid - n) }, min o.hid n) else (o, 0) := by
  obtain ⟨id, price, vis, side, ts, tif, kind⟩ := o
  cases kind <;> simp [Order.refresh, Kind.hasHidden, Kind.setHidden, Order.hid, Kind.hidden] <;> omega

theorem match_is_refresh (o : Order) (q r : Nat) (hq : o.vis ≤ q) (hr : o.refill q = some r) :
    (matchAgainst o q).updated = some (o.refresh r).1 ∧ (matchAgainst o q).hiddenRed = (o.refresh r).2 := by
  have hk : o.kind.hasHidden = true := by
    cases hk : o.kind.hasHidden
    · rw [Order.refill_plain hk] at hr; cases hr
    · rfl
  have := Order.refill_le hr
  rw [matchAgainst_eq, refresh_eq, hk]
  simp only [hr, reduceCtorEq, and_false, if_false, if_true, Option.getD_some, Nat.min_eq_right hq, Nat.sub_self,
    Nat.zero_add, true_and]
  omega

end PLV
