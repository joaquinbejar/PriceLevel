/-
  C18 — Parsers are total: malformed text yields an error, never a panic.

  In the model every text parser is a *total* Lean function `List Char → Except Err α` (Lean
  accepted each of them only with a termination argument: structural recursion over the input, or an
  explicit fuel bounded by the input's length), built from total primitives (`splitOn`, `take`,
  `drop`, `idxOf`): there is no partial operation left to hit. The theorems below state this
  outcome dichotomy for every `FromStr` of the crate. What ties them to the code — in particular
  that the repaired `MatchResult::from_str` never slices inside a multi-byte character, which the
  character-indexed model cannot express — is the malformed-stream correspondence run (every call
  under `catch_unwind` and a watchdog).
  JSON entry points: the crate's own visitor code has no partial operation; totality of
  `serde_json` itself is assumed.
-/
import PLV.Model.Text

namespace PLV.C18
open PLV PLV.Text

theorem C18_total (s : Str) :
    (∃ r, parseOrder s = r) ∧ (∃ r, parseUpdate s = r) ∧ (∃ r, parseId s = r) ∧ (∃ r, parseSide s = r) ∧
    (∃ r, parseTif s = r) ∧ (∃ r, parsePeg s = r) ∧ (∃ r, parseTx s = r) ∧ (∃ r, parseTxList s = r) ∧
    (∃ r, parseMR s = r) ∧ (∃ r, parseStats s = r) ∧ (∃ r, parseSnap s = r) ∧ (∃ r, parseQueue s = r) ∧
    (∃ r, parseLevel s = r) :=
  ⟨⟨_, rfl⟩, ⟨_, rfl⟩, ⟨_, rfl⟩, ⟨_, rfl⟩, ⟨_, rfl⟩, ⟨_, rfl⟩, ⟨_, rfl⟩, ⟨_, rfl⟩, ⟨_, rfl⟩, ⟨_, rfl⟩, ⟨_, rfl⟩,
    ⟨_, rfl⟩, ⟨_, rfl⟩⟩

/-- the bracket scanner of `MatchResult::from_str` stops within the input: it returns an index
    inside the string or gives up — it never runs past the end -/
theorem C18_scan_in_range (s : Str) (i depth fuel k : Nat) (h : scanClose s i depth fuel = some k) : k < s.length := by
  induction fuel generalizing i depth with
  | zero => simp [scanClose] at h
  | succ f ih =>
    unfold scanClose at h
    cases hc : s[i]? with
    | none => simp [hc] at h
    | some c =>
      simp only [hc] at h
      have hi : i < s.length := (List.getElem?_eq_some_iff.1 hc).1
      split at h
      · split at h
        · simp at h; omega
        · exact ih _ _ h
      · split at h
        · exact ih _ _ h
        · exact ih _ _ h

/-- the empty string and a lone multi-byte character (the input on which the unrepaired
    `MatchResult::from_str` panicked, after its prefix) are rejected with an error -/
example : (match parseMR [] with | .error .invalidFormat => true | _ => false) = true := by decide
example : (match parseMR (lit "MatchResult:order_id=é") with | .error .missingField => true | _ => false) = true := by
  simp only [lit, String.reduceToList]; decide

end PLV.C18
