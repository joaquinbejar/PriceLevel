/-
  C16 — Text encodings round-trip for every value: `parse (show v) = v` over the model's codecs, for
  EVERY value whose numeric fields fit their Rust types (ids below 2^128, `u64` fields below 2^64,
  the peg offset in `i64`) — ids (both forms), numbers, side, time-in-force, peg reference, orders
  (seven kinds), updates (five kinds), transactions, statistics, snapshot summaries, and the four
  list-carrying encodings for lists of any length: order queue, transaction list, level (price and
  orders; the aggregates in the text are ignored by the parser) and match result. Nothing of C16 is
  left to the correspondence run alone.
-/
import PLV.Lemmas.TextLevel
import PLV.Lemmas.TextMatchResult
import PLV.Props.Ranges

namespace PLV.C16
open PLV PLV.Text

theorem C16_id (i : Id) (h : i.val < 2 ^ 128) : parseId (showId i) = some i := parseId_showId i h
theorem C16_uuid (v : Nat) (h : v < 2 ^ 128) : parseUuid (showUuid v) = some v := parseUuid_showUuid h
theorem C16_u64 (n : Nat) (h : n < W) : parseU64 (showNat n) = some n := parseU64_showNat h
theorem C16_i64 (i : Int) (h1 : -9223372036854775808 ≤ i) (h2 : i < 9223372036854775808) :
    parseI64 (showInt i) = some i := parseI64_showInt h1 h2
theorem C16_side (s : Side) : parseSide (showSide s) = some s := parseSide_showSide s
theorem C16_tif (t : Tif) (h : ∀ n, t = .gtd n → n < W) : parseTif (showTif t) = some t := parseTif_showTif t h
theorem C16_peg (p : PegRef) : parsePeg (showPeg p) = some p := (parsePeg_showPeg p).1

theorem pair_ne_nil (k v : Str) : pair (k, v) ≠ [] := by simp [pair]

/-- the fields every order kind prints: id, price and quantity (under the key `q`), then `mid`, then side,
    timestamp and time in force, then `extra` -/
theorem order_kvs {id : Id} {price vis : Nat} {side : Side} {ts : Nat} {tif : Tif} {q : String} (hq : Plain (lit q))
    {mid pm extra pe} (hm : KVs mid pm) (he : KVs extra pe) :
    KVs (kv "id" (showId id) :: kv "price" (showNat price) :: kv q (showNat vis) :: (mid ++
        kv "side" (showSide side) :: kv "timestamp" (showNat ts) :: kv "time_in_force" (showTif tif) :: extra))
      ((lit "id", showId id) :: (lit "price", showNat price) :: (lit q, showNat vis) :: (pm ++
        (lit "side", showSide side) :: (lit "timestamp", showNat ts) :: (lit "time_in_force", showTif tif) :: pe)) := by
  obtain ⟨kid, kprice, _, kside, kts, ktif, _⟩ := plain_lit_keys
  exact .cons kid (plain_showId id) <| .cons kprice (plain_showNat price) <| .cons hq (plain_showNat vis) <| hm.append <|
    .cons kside (plain_showSide side) <| .cons kts (plain_showNat ts) <| .cons ktif (plain_showTif tif) he

/-- a printed order is a record — so without comma or bracket — for every order, and reads back if its numbers fit
    their Rust types; the two facts share the derivation of the record, kind by kind -/
theorem order_record (o : Order) : RecChars (showOrder o) ∧ (OrderOk o → parseOrder (showOrder o) = .ok o) := by
  obtain ⟨id, price, vis, side, ts, tif, kind⟩ := o
  obtain ⟨_, _, kq, _, _, _, kvq, kh, kt, kl, ko, kr, kth, ka, kau⟩ := plain_lit_keys
  obtain ⟨n1, n2, n3, n4, n5, n6, n7⟩ : Plain (lit "Standard") ∧ Plain (lit "PostOnly") ∧ Plain (lit "MarketToLimit") ∧
      Plain (lit "TrailingStop") ∧ Plain (lit "PeggedOrder") ∧ Plain (lit "IcebergOrder") ∧ Plain (lit "ReserveOrder") := by
    and_intros <;> apply plain_lit <;> decide
  have hid {h : Nat} : KVs [kv "hidden_quantity" (showNat h)] _ := .cons kh (plain_showNat h) .nil
  cases kind
  all_goals simp only [showOrder, List.cons_append, List.nil_append]
  -- per kind: what it prints between and after the common fields
  case' standard => refine Rec.chars_rt ⟨n1, order_kvs kq .nil .nil⟩ ?_
  case' postOnly => refine Rec.chars_rt ⟨n2, order_kvs kq .nil .nil⟩ ?_
  case' marketToLimit => refine Rec.chars_rt ⟨n3, order_kvs kq .nil .nil⟩ ?_
  case' trailingStop t r => refine Rec.chars_rt ⟨n4, order_kvs kq .nil
    (.cons kt (plain_showNat t) <| .cons kl (plain_showNat r) .nil)⟩ ?_
  case' pegged off r => refine Rec.chars_rt ⟨n5, order_kvs kq .nil
    (.cons ko (plain_showInt off) <| .cons kr (plain_showPeg r) .nil)⟩ ?_
  case' iceberg h => refine Rec.chars_rt ⟨n6, order_kvs kvq hid .nil⟩ ?_
  case' reserve h thr amt auto => refine Rec.chars_rt ⟨n7, order_kvs kvq hid
    (.cons kth (plain_showNat thr) <| .cons ka (plain_amt amt) <| .cons kau (plain_flag auto) .nil)⟩ ?_
  case' reserve => rcases amt with _ | a <;> rcases auto with _ | _
  -- the lookups, last pair first, and the round trips of the values
  all_goals
    intro ⟨h1, h2, h3, h4, h5, hk⟩ s body e6 e7
    dsimp only at hk
    simp only [parseOrder, e6, e7, List.cons_append, List.nil_append, reqU64, getField_cons, getField_nil, String.reduceEq,
      ↓reduceIte, parseU64_showNat, parseId_showId id h1, parseTif_showTif tif h5, h2, h3, h4, hk, parseSide_showSide, bind,
      Except.bind, lit_inj, parseI64_showInt, parsePeg_showPeg, showNat_ne_none, Bool.false_eq_true]

/-- **orders, all seven kinds** (and both values of the replenish amount and of the flag) -/
theorem C16_order (o : Order) (h : OrderOk o) : parseOrder (showOrder o) = .ok o := (order_record o).2 h

theorem orders_elems (os : List Order) : Elems (os.map showOrder) :=
  Elems.map (fun o => ⟨(order_record o).1, showOrder_ne_nil o⟩) os

theorem tx_record (t : TxRec) : RecChars (showTx t) ∧ (TxOk t → parseTx (showTx t) = .ok t) := by
  refine Rec.chars_rt (by kv_fields) fun h s body e1 e2 => ?_
  simp only [parseTx, e1, e2, reqU64, getField_cons, getField_nil, String.reduceEq, ↓reduceIte, parseU64_showNat,
    parseUuid_showUuid, parseId_showId, h.txid, h.taker, h.maker, h.price, h.qty, h.ts, parseSide_showSide, bind, Except.bind,
    ne_eq, not_true_eq_false]

/-- **transactions** -/
theorem C16_tx (t : TxRec) (h : TxOk t) : parseTx (showTx t) = .ok t := (tx_record t).2 h

theorem txs_elems (l : List TxRec) : Elems (l.map showTx) :=
  Elems.map (fun t => ⟨(tx_record t).1, record_ne_nil _ _⟩) l

/-- **order updates, all five kinds** -/
theorem C16_update (u : Update) (h : UpdateOk u) : parseUpdate (showUpdate u) = .ok u := by
  cases u <;>
  (simp only [UpdateOk] at h
   refine record_rt (by kv_fields) fun s body e1 e2 => ?_
   simp only [parseUpdate, e1, e2, reqU64, getField_cons, getField_nil, String.reduceEq, ↓reduceIte, parseU64_showNat,
     parseId_showId, h, parseSide_showSide, bind, Except.bind, lit_inj])

/-- **statistics** -/
theorem C16_stats (s : StatsRec) (h : s.added < W ∧ s.removed < W ∧ s.executed < W ∧ s.qty < W ∧ s.value < W ∧
    s.last < W ∧ s.first < W ∧ s.wait < W) : parseStats (showStats s) = .ok s := by
  refine record_rt (by kv_fields) fun s body e1 e2 => ?_
  simp only [parseStats, e1, e2, reqU64, getField_cons, getField_nil, String.reduceEq, ↓reduceIte, parseU64_showNat, h,
    bind, Except.bind, ne_eq, not_true_eq_false]

/-- **snapshot summaries** (price and aggregates) -/
theorem C16_snapshot (s : SnapSummary) (h : s.price < W ∧ s.vis < W ∧ s.hid < W ∧ s.cnt < W) :
    parseSnap (showSnap s) = .ok s := by
  refine record_rt (by kv_fields) fun s body e1 e2 => ?_
  simp only [parseSnap, e1, e2, reqU64, getField_cons, getField_nil, String.reduceEq, ↓reduceIte, parseU64_showNat, h,
    bind, Except.bind, ne_eq, not_true_eq_false]

/-- **order queue**: any number of orders, in the order printed -/
theorem C16_queue (os : List Order) (h : ∀ o ∈ os, OrderOk o) : parseQueue (showQueue os) = .ok os := by
  simp only [parseQueue, showQueue, startsWith_wrapped, endsWith_append, Bool.not_true, Bool.false_eq_true, or_self, if_false, middle]
  exact list_rt (orders_elems os) (orders_elems os).splitOn_join fun o ho => by simp only [C16_order o (h o ho)]

theorem lit_txs : lit "Transactions:[" = lit "Transactions:" ++ ['['] := by rw [lit_ofList, lit_ofList]; rfl

/-- **transaction lists**: any number of transactions, in the order printed -/
theorem C16_txlist (l : List TxRec) (h : ∀ t ∈ l, TxOk t) : parseTxList (showTxList l) = .ok l := by
  have hidx : idxOf '[' (lit "Transactions:[" ++ joinSep [','] (l.map showTx) ++ [']']) = some 13 := by
    rw [lit_txs, List.append_assoc, List.append_assoc, List.singleton_append, idxOf_append _ (by decide)]; rfl
  have hr : ridxOf ']' (lit "Transactions:[" ++ joinSep [','] (l.map showTx) ++ [']']) =
      some (14 + (joinSep [','] (l.map showTx)).length) := by
    rw [ridxOf_snoc]; simp [List.length_append]; rfl
  simp only [parseTxList, showTxList, startsWith_wrapped, endsWith_append, Bool.not_true, Bool.false_eq_true, or_self, if_false,
    hidx, hr]
  rw [if_neg (by omega)]
  simp only [take_drop_wrapped (lit "Transactions:[") (joinSep [','] (l.map showTx)) ']' (i := 13 + 1) (by decide)
    (show _ = 14 + (joinSep [','] (l.map showTx)).length - 13 - 1 by omega)]
  exact list_rt (txs_elems l) (fun _ => (txs_elems l).splitTop_join) fun t ht => C16_tx t (h t ht)

/-- **levels**: the printed level parses back to its price and its orders, in the order printed
    (the aggregates in the text are ignored by the parser: they are re-derived, C10) -/
theorem C16_level (price vis hid cnt : Nat) (os : List Order) (hp : price < W) (h : ∀ o ∈ os, OrderOk o) :
    parseLevel (showLevel price vis hid cnt os) = .ok (price, os) := by
  rw [showLevel_eq, parseLevel_sections _ _ ((hdr_recChars price vis hid cnt).no (by decide))
    fun hc => ((orders_elems os).brackets hc).2 rfl]
  exact finish_orders price vis hid cnt os hp (orders_elems os) fun o ho => C16_order o (h o ho)

/-- **match results**: any number of transactions and filled ids, both values of the flag -/
theorem C16_mr (r : MRRec) (h : MROk r) : parseMR (showMR r) = .ok r := by
  obtain ⟨oid, txs, rem, comp, filled⟩ := r
  obtain ⟨hid, htx, hrem, hfl⟩ := h
  -- the text is kept as a variable `s` (the loop lemma speaks of `s.drop pos` and `s.length`); its shape is `hs`
  generalize hs : showMR ⟨oid, txs, rem, comp, filled⟩ = s
  rw [showMR_fields] at hs
  -- the five fields in the order printed, each with the fact the loop needs of its value
  have hfs := MRFieldList.cons (.scalar (.inl rfl) ((plain_showId oid).no (c := ';') (by decide))) <|
    .cons (.scalar (.inr (.inl rfl)) ((plain_showNat rem).no (c := ';') (by decide))) <|
    .cons (.scalar (.inr (.inr rfl)) (show ';' ∉ showBool comp by cases comp <;> decide)) <|
    .cons (.txs fun c hc => (txs_elems txs).brackets hc) <|
    .cons (.filled fun c hc => (ids_elems filled).brackets hc) .nil
  rw [parseMR, ← hs, startsWith_append, hs, mrLoop_fields hfs (hs ▸ List.drop_left' (by decide)) {} (by omega)]
  simp only [List.foldl, mrPut, lit_inj, String.reduceEq, if_true, if_false, parseId_showId oid hid, parseU64_showNat hrem]
  cases comp <;>
    simp (config := {decide := true}) only [if_true, if_false, List.singleton_append,
      show lit "Transactions:[" ++ (joinSep [','] (txs.map showTx) ++ [']']) = showTxList txs by simp [showTxList],
      finishMR_rt _ _ _ _ _ (C16_txlist txs htx) hfl]

/-! non-vacuity: a reserve order with boundary values satisfies the premise -/
example : OrderOk ⟨⟨true, 2 ^ 128 - 1⟩, W - 1, 0, .buy, W - 1, .gtd (W - 1), .reserve (W - 1) 0 none true⟩ :=
  ⟨by decide, by decide, by decide, by decide, by intro n hn; injection hn with hn; subst hn; decide,
   ⟨by decide, by decide, by intro a ha; cases ha⟩⟩

end PLV.C16
