/-
  C05 — Per-order matching follows the documented iceberg / reserve / plain rules.
  Every theorem quantifies over *all* orders and *all* incoming quantities; no bound on any value.
-/
import PLV.Judge

namespace PLV.C05
open PLV

/-- `DEFAULT_RESERVE_REPLENISH_AMOUNT`, regenerated from the source on every run, is the
    documented 80. -/
theorem C05_default_replenish : defaultReplenish = 80 := by decide

theorem sameIdentity_setHidden (o : Order) (v x : Nat) :
    o.sameIdentity { o with vis := v, kind := o.kind.setHidden x } = true := by
  simp only [Order.sameIdentity, beq_self_eq_true, Bool.true_and]
  cases o.kind <;> simp [Kind.sameParams, Kind.setHidden]

/-! `leaves` and `staysWith`, the two outcomes `C05.ok` speaks of, read off `matchAgainst_eq` -/

theorem leaves_ma {o : Order} {q : Nat} (hv : o.vis ≤ q) (hr : o.refill q = none) :
    leaves (matchAgainst o q) = true := by
  rw [matchAgainst_eq]; simp [leaves, hv, hr]

theorem staysWith_ma {o : Order} {q v h r : Nat} (hs : ¬ (o.vis ≤ q ∧ o.refill q = none))
    (hr : (o.refill q).getD 0 = r) (hv : o.vis - min q o.vis + r = v) (hh : o.hid - r = h) :
    staysWith o (matchAgainst o q) v h r = true := by
  subst hr hv hh
  rw [matchAgainst_eq]
  simp [staysWith, hs, sameIdentity_setHidden, Order.hid, Kind.hidden_setHidden_sub]

/-- not exhausted and not refilled: the display shrinks, nothing else moves -/
theorem shrinks_ma {o : Order} {q : Nat} (hv : ¬ o.vis ≤ q) (hr : o.refill q = none) :
    staysWith o (matchAgainst o q) (o.vis - q) o.hid 0 = true :=
  staysWith_ma (fun c => hv c.1) (by rw [hr]; rfl) (by omega) rfl

theorem refilled_ma {o : Order} {q r v : Nat} (hr : o.refill q = some r) (hv : o.vis - min q o.vis + r = v) :
    staysWith o (matchAgainst o q) v (o.hid - r) r = true :=
  staysWith_ma (by simp [hr]) (by rw [hr]; rfl) hv rfl

/-- The full documented rule (`C05.ok`, the predicate the driver also evaluates on the real
    crate's results) holds of the model's `match_against`, for every order and incoming quantity. -/
theorem C05_rule (o : Order) (q : Nat) : C05.ok o q (matchAgainst o q) = true := by
  simp only [C05.ok, ma_consumed, ma_remaining, beq_self_eq_true, Bool.true_and]
  -- per kind: what `Order.refill` is, against the decision the property text makes; then one of the three outcomes
  cases hk : o.kind with
  | iceberg h =>
    have hr := Order.refill_iceberg hk q
    obtain rfl : h = o.hid := by rw [Order.hid, hk]; rfl
    simp only
    by_cases hv : o.vis ≤ q
    · by_cases h0 : 0 < o.hid
      · rw [if_pos ⟨hv, h0⟩] at hr; rw [if_pos hv, if_pos h0]
        exact refilled_ma hr (by omega)
      · rw [if_neg fun c => h0 c.2] at hr; rw [if_pos hv, if_neg h0]
        exact leaves_ma hv hr
    · rw [if_neg fun c => hv c.1] at hr; rw [if_neg hv]
      exact shrinks_ma hv hr
  | reserve h thr amt auto =>
    have hr := Order.refill_reserve hk q
    obtain rfl : h = o.hid := by rw [Order.hid, hk]; rfl
    have hb : (auto && decide (o.hid > 0) &&
          (decide (o.vis ≤ q) || decide (o.vis - q < if auto && thr == 0 then 1 else thr))) = true ↔
        auto = true ∧ 0 < o.hid ∧ (o.vis ≤ q ∨ o.vis - q < if auto && thr == 0 then 1 else thr) := by
      simp [and_assoc]
    simp only
    rw [C05_default_replenish] at hr
    by_cases hc : auto = true ∧ 0 < o.hid ∧ (o.vis ≤ q ∨ o.vis - q < if auto && thr == 0 then 1 else thr)
    · rw [if_pos hc] at hr; rw [if_pos (hb.2 hc)]
      exact refilled_ma hr rfl
    · rw [if_neg hc] at hr; rw [if_neg (mt hb.1 hc)]
      by_cases hv : o.vis ≤ q
      · rw [if_pos hv]; exact leaves_ma hv hr
      · rw [if_neg hv]; exact shrinks_ma hv hr
  | _ =>
    have hp : o.kind.hasHidden = false := by rw [hk]; rfl
    have hr := Order.refill_plain hp q
    simp only
    by_cases hv : o.vis ≤ q
    · rw [if_pos hv]; exact leaves_ma hv hr
    · rw [if_neg hv]; have h := shrinks_ma hv hr; rwa [hid_of_plain o hp] at h

/-- consumes exactly the smaller of incoming and displayed -/
theorem C05_consumed (o : Order) (q : Nat) : (matchAgainst o q).consumed = min q o.vis :=
  ma_consumed o q

theorem C05_remaining (o : Order) (q : Nat) :
    (matchAgainst o q).remaining = q - (matchAgainst o q).consumed := by
  rw [ma_remaining, ma_consumed]

/-- conservation: displayed + hidden afterwards = before − consumed, unless the order leaves -/
theorem C05_conservation (o u : Order) (q : Nat) (h : (matchAgainst o q).updated = some u) :
    u.vis + u.hid + (matchAgainst o q).consumed = o.vis + o.hid := by
  have := ma_stay h; omega

/-- what leaves hidden is exactly what is reported as "hidden reduced", and it reappears displayed -/
theorem C05_hidden_reduced (o u : Order) (q : Nat) (h : (matchAgainst o q).updated = some u) :
    u.hid + (matchAgainst o q).hiddenRed = o.hid := (ma_stay h).2.2

/-- id, price, side, timestamp, time-in-force and the type parameters never change -/
theorem C05_identity (o u : Order) (q : Nat) (h : (matchAgainst o q).updated = some u) :
    u.id = o.id ∧ u.price = o.price ∧ u.side = o.side ∧ u.ts = o.ts ∧ u.tif = o.tif ∧
      Kind.sameParams o.kind u.kind = true := by
  obtain ⟨rfl, _⟩ := ma_some h
  have := sameIdentity_setHidden o (o.vis - (matchAgainst o q).consumed + (matchAgainst o q).hiddenRed)
    (o.hid - (matchAgainst o q).hiddenRed)
  simp only [Order.sameIdentity, beq_self_eq_true, Bool.true_and] at this
  exact ⟨rfl, rfl, rfl, rfl, rfl, this⟩

/-- an iceberg whose display is exhausted shows a new tranche no larger than the exhausted one,
    taken from hidden quantity -/
theorem C05_iceberg_tranche (o : Order) (q h : Nat) (hk : o.kind = .iceberg h) (hv : o.vis ≤ q)
    (hh : 0 < h) :
    ∃ u, (matchAgainst o q).updated = some u ∧ u.vis = min h o.vis ∧ u.vis ≤ o.vis ∧
      u.hid + u.vis = h := by
  have hr : o.refill q = some (min h o.vis) := by rw [Order.refill_iceberg hk, if_pos ⟨hv, hh⟩]
  rw [matchAgainst_eq]
  simp only [hr, reduceCtorEq, and_false, if_false, Option.getD_some, Nat.min_eq_right hv, Nat.sub_self, Nat.zero_add]
  refine ⟨_, rfl, rfl, Nat.min_le_right _ _, ?_⟩
  simp only [Order.hid, hk, Kind.setHidden, Kind.hidden]; omega

/-- … and leaves when nothing is hidden -/
theorem C05_iceberg_leaves (o : Order) (q : Nat) (hk : o.kind = .iceberg 0) (hv : o.vis ≤ q) :
    (matchAgainst o q).updated = none := by
  rw [matchAgainst_eq]; simp [Order.refill_iceberg hk, hv]

/-- a reserve order replenishes exactly when auto-replenish is on, something is hidden, and its
    display is exhausted or falls below its threshold (0 counts as 1); by its configured amount
    (default 80) capped by the hidden quantity -/
theorem C05_reserve (o : Order) (q h thr : Nat) (amt : Option Nat) (auto : Bool)
    (hk : o.kind = .reserve h thr amt auto) :
    let safeThr := if auto && thr == 0 then 1 else thr
    let amount := min (amt.getD 80) h
    if auto = true ∧ 0 < h ∧ (o.vis ≤ q ∨ o.vis - q < safeThr) then
      ∃ u, (matchAgainst o q).updated = some u ∧ u.vis = o.vis - min q o.vis + amount ∧
        u.hid = h - amount ∧ (matchAgainst o q).hiddenRed = amount
    else if o.vis ≤ q then (matchAgainst o q).updated = none
    else ∃ u, (matchAgainst o q).updated = some u ∧ u.vis = o.vis - q ∧ u.hid = h := by
  have hr := Order.refill_reserve hk q
  rw [C05_default_replenish] at hr
  intro safeThr amount
  rw [matchAgainst_eq]
  by_cases hc : auto = true ∧ 0 < h ∧ (o.vis ≤ q ∨ o.vis - q < safeThr)
  · rw [if_pos hc]; rw [if_pos hc] at hr
    simp only [hr, reduceCtorEq, and_false, if_false, Option.getD_some]
    exact ⟨_, rfl, rfl, by simp [Order.hid, hk, Kind.setHidden, Kind.hidden, amount], rfl⟩
  · rw [if_neg hc]; rw [if_neg hc] at hr
    simp only [hr, and_true, Option.getD_none, Nat.add_zero]
    split
    · rfl
    · exact ⟨_, rfl, by simp only; omega, by simp [Order.hid, hk, Kind.setHidden, Kind.hidden]⟩

/-- every other type just shrinks and leaves when filled -/
theorem C05_plain (o : Order) (q : Nat) (hk : o.kind.hasHidden = false) :
    if o.vis ≤ q then (matchAgainst o q).updated = none
    else (matchAgainst o q).updated = some { o with vis := o.vis - q } := by
  rw [matchAgainst_eq]
  simp only [Order.refill_plain hk, and_true, Option.getD_none, Nat.add_zero, Nat.sub_zero, Order.hid,
    Kind.setHidden_hidden]
  split
  · rfl
  · rw [Nat.min_eq_left (by omega)]

/-- no 64-bit overflow: with displayed + hidden below 2^64 every quantity the rule produces is too,
    so the model's unbounded arithmetic and the crate's `u64` arithmetic coincide -/
theorem C05_fits (o u : Order) (q : Nat) (hfit : o.vis + o.hid < W)
    (h : (matchAgainst o q).updated = some u) :
    u.vis + u.hid < W ∧ (matchAgainst o q).consumed ≤ o.vis ∧ (matchAgainst o q).hiddenRed ≤ o.hid := by
  have := C05_conservation o u q h
  have := C05_hidden_reduced o u q h
  have := C05_consumed o q
  omega

/-! non-vacuity: concrete orders on which the interesting branches are taken -/
example : (matchAgainst ⟨⟨false, 1⟩, 100, 5, .sell, 1, .gtc, .iceberg 20⟩ 7).updated =
    some ⟨⟨false, 1⟩, 100, 5, .sell, 1, .gtc, .iceberg 15⟩ := by decide
example : (matchAgainst ⟨⟨false, 1⟩, 100, 10, .sell, 1, .gtc, .reserve 200 3 none true⟩ 8).updated =
    some ⟨⟨false, 1⟩, 100, 82, .sell, 1, .gtc, .reserve 120 3 none true⟩ := by decide
example : (matchAgainst ⟨⟨false, 1⟩, 100, 10, .sell, 1, .gtc, .pegged (-3) .midPrice⟩ 7).updated =
    some ⟨⟨false, 1⟩, 100, 3, .sell, 1, .gtc, .pegged (-3) .midPrice⟩ := by decide

/-! ### The tranche helper `refresh_iceberg` (order_type.rs:342-407)

The crate exports the step "show a new tranche taken from hidden quantity" on its own. The statements
below hold for every order and every refresh amount; `C05_match_is_refresh_*` says the replenish steps of
`match_against` are this helper applied to the capped amount, so the two cannot drift apart unnoticed. -/

/-- the full rule of the helper (`C05.refreshOk`, also evaluated on the real crate's results) -/
theorem C05_refresh_rule (o : Order) (n : Nat) :
    C05.refreshOk o n (o.refresh n).1 (o.refresh n).2 = true := by
  have := Kind.hidden_setHidden_sub o.kind n
  rw [refresh_eq]; unfold C05.refreshOk; split
  · simp only [sameIdentity_setHidden, Bool.true_and, Bool.and_eq_true, beq_iff_eq, Order.hid, and_self, true_and]
    omega
  · simp

theorem C05_refresh_used (o : Order) (n : Nat) : (o.refresh n).2 = if o.kind.hasHidden then min o.hid n else 0 := by
  rw [refresh_eq]; split <;> rfl

theorem C05_refresh_hidden_conserved (o : Order) (n : Nat) : (o.refresh n).1.hid + (o.refresh n).2 = o.hid := by
  rw [refresh_eq]; split
  · simp only [Order.hid, Kind.hidden_setHidden_sub]; omega
  · rfl

/-- the display shown afterwards is the amount asked for — so it is covered by hidden quantity exactly when
    the caller caps the amount (`n ≤ hidden`), which is what `match_against` does -/
theorem C05_refresh_covered (o : Order) (n : Nat) (hk : o.kind.hasHidden = true) (hn : n ≤ o.hid) :
    (o.refresh n).1.vis = (o.refresh n).2 ∧ (o.refresh n).1.vis + (o.refresh n).1.hid = o.hid := by
  have := Kind.hidden_setHidden_sub o.kind n
  rw [refresh_eq, hk]; simp only [if_true, Order.hid] at hn ⊢; omega

theorem C05_refresh_identity (o : Order) (n : Nat) : o.sameIdentity (o.refresh n).1 = true := by
  rw [refresh_eq]; split
  · exact sameIdentity_setHidden o n _
  · simpa [Order.hid, Kind.setHidden_hidden] using sameIdentity_setHidden o o.vis o.hid

theorem C05_refresh_plain (o : Order) (n : Nat) (hk : o.kind.hasHidden = false) : o.refresh n = (o, 0) := by
  rw [refresh_eq, hk]; rfl

/-- an exhausted iceberg's new tranche is the helper applied to `min hidden display` -/
theorem C05_match_is_refresh_iceberg (o : Order) (q h : Nat) (hk : o.kind = .iceberg h) (hq : o.vis ≤ q)
    (hh : 0 < h) :
    (matchAgainst o q).updated = some (o.refresh (min h o.vis)).1 ∧
      (matchAgainst o q).hiddenRed = (o.refresh (min h o.vis)).2 :=
  match_is_refresh o q _ hq (by rw [Order.refill_iceberg hk, if_pos ⟨hq, hh⟩])

/-- an exhausted auto-replenishing reserve order's refill is the helper applied to the capped amount -/
theorem C05_match_is_refresh_reserve (o : Order) (q h thr : Nat) (amt : Option Nat)
    (hk : o.kind = .reserve h thr amt true) (hq : o.vis ≤ q) (hh : 0 < h) :
    (matchAgainst o q).updated = some (o.refresh (min (amt.getD defaultReplenish) h)).1 ∧
      (matchAgainst o q).hiddenRed = (o.refresh (min (amt.getD defaultReplenish) h)).2 :=
  match_is_refresh o q _ hq (by rw [Order.refill_reserve hk, if_pos ⟨rfl, hh, .inl hq⟩])

/-- no 64-bit overflow in the helper: every quantity it produces is bounded by its inputs -/
theorem C05_refresh_fits (o : Order) (n : Nat) (hn : n < W) (hh : o.hid < W) :
    (o.refresh n).1.hid < W ∧ (o.refresh n).2 < W ∧ ((o.refresh n).1.vis = n ∨ (o.refresh n).1.vis = o.vis) := by
  have := Kind.hidden_setHidden_sub o.kind n
  rw [refresh_eq]; split
  · exact ⟨by simp only [Order.hid] at hh ⊢; omega, by simp only; omega, .inl rfl⟩
  · exact ⟨hh, by simp only; omega, .inr rfl⟩

/-- tranches compose: two refreshes in a row take out of the hidden quantity what one refresh by the sum takes,
    never more than was hidden, and leave the same hidden quantity behind -/
theorem C05_refresh_twice (o : Order) (a b : Nat) :
    (o.refresh a).2 + ((o.refresh a).1.refresh b).2 = (o.refresh (a + b)).2 ∧
      ((o.refresh a).1.refresh b).1.hid = (o.refresh (a + b)).1.hid ∧
      (o.refresh a).2 + ((o.refresh a).1.refresh b).2 ≤ o.hid := by
  simp only [refresh_eq]
  cases hk : o.kind.hasHidden
  · simp [hk]
  · simp only [if_true, Order.hid, Kind.hidden_setHidden, Kind.hasHidden_setHidden, hk]; omega

example : (⟨⟨false, 1⟩, 100, 0, .sell, 1, .gtc, .iceberg 20⟩ : Order).refresh 7 =
    (⟨⟨false, 1⟩, 100, 7, .sell, 1, .gtc, .iceberg 13⟩, 7) := by decide
example : (⟨⟨false, 1⟩, 100, 4, .sell, 1, .gtc, .reserve 5 3 none true⟩ : Order).refresh 80 =
    (⟨⟨false, 1⟩, 100, 80, .sell, 1, .gtc, .reserve 0 3 none true⟩, 5) := by decide

/-! ### Time-in-force predicates (`TimeInForce::is_immediate / has_expiry / is_expired`, the order's
`is_immediate / is_fill_or_kill / is_post_only`): modelled, compared with the crate on every run of E-pure. -/

/-- fill-or-kill orders are immediate; an immediate order never carries an expiry -/
theorem C05_tif_consistent (o : Order) :
    (o.isFok = true → o.isImmediate = true) ∧ (o.isImmediate = true → o.tif.hasExpiry = false) ∧
      (o.tif.hasExpiry = false → ∀ now close, o.tif.isExpired now close = false) := by
  obtain ⟨id, price, vis, side, ts, tif, kind⟩ := o
  cases tif <;> simp [Order.isFok, Order.isImmediate, Tif.isImmediate, Tif.hasExpiry, Tif.isExpired]

/-- expiry is monotone in time: once expired, expired at every later instant -/
theorem C05_tif_expired_mono (t : Tif) (now later : Nat) (close : Option Nat) (h : now ≤ later)
    (he : t.isExpired now close = true) : t.isExpired later close = true := by
  cases t <;> cases close <;> simp_all [Tif.isExpired] <;> omega

/-- matching never changes any of the predicates -/
theorem C05_match_keeps_predicates (o u : Order) (q : Nat) (h : (matchAgainst o q).updated = some u) :
    u.isImmediate = o.isImmediate ∧ u.isFok = o.isFok ∧ u.isPostOnly = o.isPostOnly := by
  obtain ⟨rfl, _⟩ := ma_some h
  refine ⟨rfl, rfl, ?_⟩
  generalize o.hid - _ = x
  simp only [Order.isPostOnly]; cases o.kind <;> rfl

end PLV.C05
