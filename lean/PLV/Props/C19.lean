/-
  C19 — The exported order queue is a FIFO with lookup and removal by id.
-/
import PLV.Lemmas.Queue

namespace PLV.C19
open PLV

/-- the queue's API as data -/
inductive QOp where
  | push (o : Order) | pop | find (id : Id) | remove (id : Id) | len | isEmpty | toVec
  deriving Repr

inductive QOut where
  | unit | order (o : Option Order) | num (n : Nat) | bool (b : Bool) | orders (l : List Order)
  deriving Repr, DecidableEq

/-- the implementation (model of `OrderQueue`) -/
def step (q : Q) : QOp → Q × QOut
  | .push o => (q.push o, .unit)
  | .pop => ((q.pop).2, .order (q.pop).1)
  | .find id => (q, .order (q.find id))
  | .remove id => ((q.remove id).2, .order (q.remove id).1)
  | .len => (q, .num q.len)
  | .isEmpty => (q, .bool q.isEmpty)
  | .toVec => (q, .orders q.toVec)

/-- the specification: a plain list of orders in push order -/
def specStep (f : Fifo) : QOp → Fifo × QOut
  | .push o => (f.push o, .unit)
  | .pop => ((f.pop).2, .order (f.pop).1)
  | .find id => (f, .order (f.find id))
  | .remove id => ((f.remove id).2, .order (f.remove id).1)
  | .len => (f, .num f.length)
  | .isEmpty => (f, .bool f.isEmpty)
  | .toVec => (f, .orders (sortByTs f))

/-- abstraction: the orders in the order successive pops would hand them out -/
def abs (q : Q) : Fifo := liveOrder q.map q.tickets

/-- well-formedness of a queue: distinct keys, each with a ticket -/
structure QInv (q : Q) : Prop where
  nodup : (ids q.map).Nodup
  covered : ∀ x ∈ ids q.map, x ∈ q.tickets

/-- the side condition of the refinement: a push does not re-use an id that still has a ticket in
    the queue (a queued id, or an id removed earlier whose stale ticket has not been skipped yet) -/
def Fresh (q : Q) : QOp → Prop
  | .push o => o.id ∉ q.tickets
  | _ => True

theorem QInv.step {q : Q} (h : QInv q) (op : QOp) : QInv (step q op).1 := by
  cases op with
  | push o => exact ⟨nodup_insert _ h.nodup, covered_insert o h.covered⟩
  | pop =>
    simp only [C19.step, Q.pop]
    cases hp : popLive q.map q.tickets with
    | none => exact ⟨h.nodup, covered_pop_none hp h.covered⟩
    | some r =>
      obtain ⟨o, m', ts'⟩ := r
      exact ⟨(popLive_spec hp).2 ▸ nodup_erase _ h.nodup, covered_pop hp h.covered⟩
  | remove id =>
    simp only [C19.step, Q.remove]
    cases hf : q.map.find id with
    | none => exact h
    | some o => exact ⟨nodup_erase _ h.nodup, fun x hx => h.covered x (mem_ids_erase.1 hx).1⟩
  | find id => exact h
  | len => exact h
  | isEmpty => exact h
  | toVec => exact h

/-- **refinement** (`C19_partial`, the part of C19 that holds): every operation whose push does not re-use a ticketed id acts on
    the hand-out order exactly as the abstract FIFO does, and returns the same answer (the listing
    up to the unspecified order among equal timestamps: as a permutation) -/
theorem C19_refines {q : Q} (h : QInv q) (op : QOp) (hf : Fresh q op) :
    abs (step q op).1 = (specStep (abs q) op).1 ∧
      (match op with
       | .toVec => ∃ l l', (step q op).2 = .orders l ∧ (specStep (abs q) op).2 = .orders l' ∧ l.Perm l'
       | _ => (step q op).2 = (specStep (abs q) op).2) := by
  have hp := liveOrder_perm q.tickets q.map h.nodup h.covered
  cases op with
  | push o => exact ⟨liveOrder_push_fresh o q.tickets q.map hf, rfl⟩
  | pop =>
    simp only [C19.step, C19.specStep, abs, Q.pop]
    cases hp : popLive q.map q.tickets with
    | none => simp [liveOrder_pop_none hp, Fifo.pop, liveOrder]
    | some r => simp [liveOrder_pop hp, Fifo.pop]
  | find id => exact ⟨rfl, congrArg QOut.order (lookup_live h.covered id).symm⟩
  | remove id =>
    simp only [C19.step, C19.specStep, abs, Q.remove_eq, Fifo.remove, lookup_live h.covered]
    exact ⟨liveOrder_erase id q.tickets q.map, trivial⟩
  | len => exact ⟨rfl, congrArg QOut.num hp.length_eq.symm⟩
  | isEmpty => exact ⟨rfl, congrArg QOut.bool hp.isEmpty_eq.symm⟩
  | toVec => exact ⟨rfl, _, _, rfl, rfl, (sortByTs_perm _).trans (hp.symm.trans (sortByTs_perm _).symm)⟩

/-- parts of the contract that hold for **every** sequence, stale tickets or not: lookup and
    removal find exactly the queued orders, length and emptiness count exactly them, the listing
    shows each of them once -/
theorem C19_always {q : Q} (h : QInv q) :
    (∀ id, q.find id = lookup id (abs q)) ∧ q.len = (abs q).length ∧ (q.isEmpty = true ↔ abs q = []) ∧
      q.toVec.Perm (abs q) ∧ (ids (abs q)).Nodup := by
  have hp := liveOrder_perm q.tickets q.map h.nodup h.covered
  refine ⟨fun id => (lookup_live h.covered id).symm, hp.length_eq.symm, ?_, (sortByTs_perm _).trans hp.symm,
    (perm_ids hp).nodup_iff.2 h.nodup⟩
  rw [Q.isEmpty, ← hp.isEmpty_eq, List.isEmpty_iff]; rfl

def run (q : Q) : List QOp → Q
  | [] => q
  | op :: rest => run (step q op).1 rest

def specRun (f : Fifo) : List QOp → Fifo
  | [] => f
  | op :: rest => specRun (specStep f op).1 rest

def FreshAll (q : Q) : List QOp → Prop
  | [] => True
  | op :: rest => Fresh q op ∧ FreshAll (step q op).1 rest

theorem C19_history (ops : List QOp) : ∀ (q : Q), QInv q → FreshAll q ops → abs (run q ops) = specRun (abs q) ops := by
  induction ops with
  | nil => intro q _ _; rfl
  | cons op rest ih =>
    intro q h hf
    simp only [run, specRun]
    rw [ih _ (h.step op) hf.2, (C19_refines h op hf.1).1]

/-- building a queue from a list of orders with distinct ids (`from_vec`, `From<Vec>`, and through
    them the text and JSON constructors) yields a queue that hands them out in list order -/
theorem C19_from_vec (os : List Order) (hn : (ids os).Nodup) : QInv (Q.fromVec os) ∧ abs (Q.fromVec os) = os := by
  rw [fromVec_eq os hn]
  exact ⟨⟨hn, fun _ h => h⟩, liveOrder_self os hn⟩

/-- **the full property fails**: push A, push B, remove A, push A again, pop → A (B was pushed
    first and is still queued). The re-pushed order lands on its stale ticket. -/
theorem C19_counterexample :
    let A : Order := ⟨⟨false, 1⟩, 100, 5, .sell, 1, .gtc, .standard⟩
    let B : Order := ⟨⟨false, 2⟩, 100, 5, .sell, 2, .gtc, .standard⟩
    let q := run {} [.push A, .push B, .remove A.id, .push A]
    (step q .pop).2 = .order (some A) ∧ (specStep (specRun [] [.push A, .push B, .remove A.id, .push A]) .pop).2 = .order (some B) := by
  decide

/-! non-vacuity of the refinement's premises -/
example : FreshAll {} [.push ⟨⟨false, 1⟩, 100, 5, .sell, 1, .gtc, .standard⟩,
    .push ⟨⟨false, 2⟩, 100, 5, .sell, 2, .gtc, .iceberg 3⟩, .remove ⟨false, 1⟩, .pop, .len] := by
  simp [FreshAll, Fresh, step, Q.push]

end PLV.C19
