/-
  C11 — A restored level trades in the same order as the level it was taken from.

  The full property is FALSE of the crate (and of the model): `C11_counterexample`. A snapshot
  lists the orders by timestamp; a restore queues them in listed order; the original queues them
  in arrival order. So the two trade alike exactly when the original's hand-out order already was its
  timestamp-sorted listing at the moment of the snapshot, and then they answer every continuation
  alike, provided the original's ticket queue holds no ticket twice (an amend leaves a second one) and the
  continuation does not re-add an id whose stale ticket the original still queues (C04/F2, a known finding).
  `C11_partial`: the restored level's hand-out order is the listing it was built from. `C11_continuations`: under
  the provisos, the same answers to every continuation — adds, cancels, quantity amends, price moves, replaces and
  matches in any order and number (`C11_matches`: the case of matches only). The relation carried through a
  continuation is `RelQ`: equal maps, ticket queues equal once the tickets of ids that are dead for good are deleted.
-/
import PLV.Lemmas.Restore

namespace PLV.C11
open PLV

def live (l : Level) : List Order := liveOrder l.map l.tickets

/-- the restored level hands its orders out in the order the snapshot lists them -/
theorem C11_restored_order (s : Snapshot) (hg : s.Good) : live (Level.fromSnapshot s) = s.orders := by
  rw [live, Level.fromSnapshot_eq s hg]; exact liveOrder_self s.orders hg.nodup

/-- **C11_partial**: restoring from the level's own snapshot reproduces the original hand-out
    order exactly when that order was already the timestamp-sorted listing -/
theorem C11_partial {l : Level} (h : l.Inv) :
    live (Level.fromSnapshot l.snapshot) = live l ↔ live l = l.listing := by
  rw [C11_restored_order l.snapshot h.snapshot_good]
  exact ⟨fun e => e.symm, fun e => e.symm⟩

/-! ### continuations

  `D` is a fixed set of ids that are in neither map and that the continuation never adds: their tickets are
  skipped by every `pop` for good. Two queues are related when their maps agree on every lookup and their
  ticket lists agree once the `D`-tickets are deleted. Duplicate tickets outside `D` are allowed (a same-price
  amend creates them, on both sides alike); "the same hand-out order" would not survive such an amend. -/

structure RelQ (D : Id → Bool) (m1 : OMap) (ts1 : List Id) (m2 : OMap) (ts2 : List Id) : Prop where
  find : ∀ id, m1.find id = m2.find id
  dead : ∀ id, D id = true → m1.find id = none
  tick : ts1.filter (fun id => !D id) = ts2.filter (fun id => !D id)

theorem RelQ.erase {D m1 ts1 m2 ts2} (h : RelQ D m1 ts1 m2 ts2) (t : Id) {ts1' ts2' : List Id}
    (ht : ts1'.filter (fun id => !D id) = ts2'.filter (fun id => !D id)) :
    RelQ D (m1.erase t) ts1' (m2.erase t) ts2' := by
  refine ⟨fun id => ?_, fun id hid => ?_, ht⟩
  · by_cases e : id = t
    · subst e; rw [find_erase_self, find_erase_self]
    · rw [find_erase_ne e, find_erase_ne e, h.find]
  · by_cases e : id = t
    · subst e; exact find_erase_self _ _
    · rw [find_erase_ne e]; exact h.dead id hid

theorem RelQ.push {D m1 ts1 m2 ts2} (h : RelQ D m1 ts1 m2 ts2) (u : Order) (hu : D u.id = false) :
    RelQ D (m1.insert u) (ts1 ++ [u.id]) (m2.insert u) (ts2 ++ [u.id]) := by
  refine ⟨fun id => ?_, fun id hid => ?_, by rw [List.filter_append, List.filter_append, h.tick]⟩
  · by_cases e : id = u.id
    · subst e; rw [find_insert_same, find_insert_same]
    · rw [find_insert_ne e, find_insert_ne e, h.find]
  · rw [find_insert_ne (fun e => by rw [e, hu] at hid; cases hid)]; exact h.dead id hid

/-- related queues pop alike: both run empty, or both hand out the same order, whose id is outside `D`, and
    what is left is related -/
theorem RelQ.pop {D m1 ts1 m2 ts2} (h : RelQ D m1 ts1 m2 ts2) :
    match popLive m1 ts1 with
    | none => popLive m2 ts2 = none
    | some (o, m1', ts1') => D o.id = false ∧
        ∃ ts2', popLive m2 ts2 = some (o, m2.erase o.id, ts2') ∧ RelQ D m1' ts1' (m2.erase o.id) ts2' := by
  -- deleting `D`-tickets commutes with dropping the dead prefix, because `D`-tickets are dead
  have hq : (fun t => (m2.find t).isNone) = fun t => (m1.find t).isNone := by simp [h.find]
  have key : ∀ ts : List Id, ((ts.dropWhile fun t => (m1.find t).isNone).filter fun id => !D id) =
      (ts.filter fun id => !D id).dropWhile fun t => (m1.find t).isNone := by
    intro ts
    rw [List.dropWhile_filter]; congr 2; funext a
    cases hD : D a <;> simp [h.dead a, hD]
  have e := key ts1; rw [h.tick, ← key ts2] at e
  have hd1 := List.head?_dropWhile_not (fun t => (m1.find t).isNone) ts1
  have hd2 := List.head?_dropWhile_not (fun t => (m1.find t).isNone) ts2
  have hD : ∀ t, (m1.find t).isNone = false → D t = false := by
    intro t ht; cases hv : D t
    · rfl
    · rw [h.dead t hv] at ht; cases ht
  rw [popLive_eq_dropWhile m1, popLive_eq_dropWhile m2, hq]
  cases h1 : ts1.dropWhile (fun t => (m1.find t).isNone) <;>
    cases h2 : ts2.dropWhile (fun t => (m1.find t).isNone) <;>
    simp only [h1, h2, List.head?_cons, List.head?_nil] at e hd1 hd2 ⊢
  · simp [hD _ hd2] at e
  · simp [hD _ hd1] at e
  · rename_i t1 r1 t2 r2
    simp only [List.filter_cons, hD _ hd1, hD _ hd2, Bool.not_false, if_true, List.cons.injEq] at e
    obtain ⟨rfl, e⟩ := e
    cases hf : m1.find t1 with
    | none => simp [hf] at hd1
    | some o =>
      obtain rfl := (find_some hf).2
      simp only [← h.find, hf, Option.map_some]
      exact ⟨hD _ hd1, r2, rfl, h.erase o.id e⟩

/-- **lockstep**: related queues take the match loop through the same visits and stay related, whatever the
    statistics the two sides start from (nothing in the loop reads them); every order set aside has an id
    outside `D` -/
theorem loop_rel (D : Id → Bool) (price : Nat) (taker : Id) (rem : Nat) (m1 : OMap) (ts1 : List Id) (a : Acc) :
    ∀ (m2 : OMap) (ts2 : List Id) (s : Stats), RelQ D m1 ts1 m2 ts2 → (∀ u ∈ a.aside, D u.id = false) →
      ∃ m2' ts2' s', matchLoop price taker rem m2 ts2 { a with stats := s } =
          ((matchLoop price taker rem m1 ts1 a).1, m2', ts2', { (matchLoop price taker rem m1 ts1 a).2.2.2 with stats := s' }) ∧
        RelQ D (matchLoop price taker rem m1 ts1 a).2.1 (matchLoop price taker rem m1 ts1 a).2.2.1 m2' ts2' ∧
        ∀ u ∈ (matchLoop price taker rem m1 ts1 a).2.2.2.aside, D u.id = false := by
  fun_induction matchLoop price taker rem m1 ts1 a with
  | case1 m1 ts1 a => intro m2 ts2 s hs ha; exact ⟨m2, ts2, s, matchLoop_zero .., hs, ha⟩
  | case2 rem m1 ts1 a hz hp =>
    intro m2 ts2 s hs ha
    have h2 := hs.pop; rw [hp] at h2
    exact ⟨m2, [], s, matchLoop_none _ _ _ _ _ _ hz h2, ⟨hs.find, hs.dead, rfl⟩, ha⟩
  | case3 rem m1 ts1 a hz o m1' ts1' hp r a2 u hu hs' ih =>
    intro m2 ts2 s hs ha
    have h2 := hs.pop; rw [hp] at h2
    obtain ⟨hDo, ts2', h2, hs2⟩ := h2
    rw [matchLoop_some _ _ _ _ _ _ hz h2, show (matchAgainst o rem).updated = some u from hu]
    simp only [if_pos (show (matchAgainst o rem).consumed = 0 ∧ (matchAgainst o rem).hiddenRed = 0 from hs'),
      visit_with_stats, pushAside_with_stats]
    refine ih _ ts2' _ hs2 fun x hx => ?_
    rcases List.mem_append.1 hx with hx | hx
    · exact ha x (by simpa [a2] using hx)
    · rw [List.mem_singleton.1 hx, (ma_stay hu).1]; exact hDo
  | case4 rem m1 ts1 a hz o m1' ts1' hp r a2 u hu hs' ih =>
    intro m2 ts2 s hs ha
    have h2 := hs.pop; rw [hp] at h2
    obtain ⟨hDo, ts2', h2, hs2⟩ := h2
    rw [matchLoop_some _ _ _ _ _ _ hz h2, show (matchAgainst o rem).updated = some u from hu]
    simp only [if_neg (show ¬ ((matchAgainst o rem).consumed = 0 ∧ (matchAgainst o rem).hiddenRed = 0) from hs'),
      visit_with_stats, requeue_with_stats]
    exact ih _ _ _ (hs2.push u (by rw [(ma_stay hu).1]; exact hDo)) fun x hx => ha x (by simpa [a2] using hx)
  | case5 rem m1 ts1 a hz o m1' ts1' hp r a2 hu ih =>
    intro m2 ts2 s hs ha
    have h2 := hs.pop; rw [hp] at h2
    obtain ⟨_, ts2', h2, hs2⟩ := h2
    rw [matchLoop_some _ _ _ _ _ _ hz h2, show (matchAgainst o rem).updated = none from hu]
    simp only [visit_with_stats, leave_with_stats]
    exact ih _ ts2' _ hs2 fun x hx => ha x (by simpa [a2] using hx)

theorem requeueAside_rel (D : Id → Bool) (aside : List Order) : ∀ (m1 : OMap) (ts1 : List Id) (m2 : OMap) (ts2 : List Id),
    RelQ D m1 ts1 m2 ts2 → (∀ u ∈ aside, D u.id = false) →
    RelQ D (requeueAside m1 ts1 aside).1 (requeueAside m1 ts1 aside).2 (requeueAside m2 ts2 aside).1 (requeueAside m2 ts2 aside).2 := by
  induction aside with
  | nil => intro m1 ts1 m2 ts2 h _; exact h
  | cons o rest ih =>
    intro m1 ts1 m2 ts2 h ha
    exact ih _ _ _ _ (h.push o (ha o (by simp))) (fun u hu => ha u (by simp [hu]))

/-- two levels no sequence of operations avoiding `D` can tell apart (statistics aside) -/
structure LRel (D : Id → Bool) (l1 l2 : Level) : Prop where
  price : l1.price = l2.price
  vis : l1.vis = l2.vis
  hid : l1.hid = l2.hid
  cnt : l1.cnt = l2.cnt
  q : RelQ D l1.map l1.tickets l2.map l2.tickets

theorem match_rel {D : Id → Bool} {l1 l2 : Level} (h : LRel D l1 l2) (q : Nat) (taker : Id) (g : Nat) :
    (l1.matchOrder q taker g).2 = (l2.matchOrder q taker g).2 ∧
      LRel D (l1.matchOrder q taker g).1 (l2.matchOrder q taker g).1 := by
  obtain ⟨m2', ts2', s', e, hq, ha⟩ := loop_rel D l1.price taker q l1.map l1.tickets
    { vis := l1.vis, hid := l1.hid, cnt := l1.cnt, stats := l1.stats, g := g } l2.map l2.tickets l2.stats h.q (by simp)
  simp only [Level.matchOrder, Level.finishMatch, ← h.price, ← h.vis, ← h.hid, ← h.cnt]
  rw [e]
  exact ⟨rfl, rfl, rfl, rfl, rfl, requeueAside_rel D _ _ _ _ _ hq ha⟩

theorem add_rel {D : Id → Bool} {l1 l2 : Level} (h : LRel D l1 l2) (o : Order) (ho : D o.id = false) :
    LRel D (l1.addOrder o) (l2.addOrder o) :=
  ⟨h.price, by simp [Level.addOrder, h.vis], by simp [Level.addOrder, h.hid], by simp [Level.addOrder, h.cnt],
    h.q.push o ho⟩

theorem remove_rel {D : Id → Bool} {l1 l2 : Level} (h : LRel D l1 l2) (id : Id) :
    (l1.removeOrder id).2 = (l2.removeOrder id).2 ∧ LRel D (l1.removeOrder id).1 (l2.removeOrder id).1 := by
  simp only [Level.removeOrder, ← h.q.find id]
  cases l1.map.find id with
  | none => exact ⟨rfl, h⟩
  | some o => exact ⟨rfl, h.price, by simp [h.vis], by simp [h.hid], by simp [h.cnt], h.q.erase id h.q.tick⟩

theorem amend_rel {D : Id → Bool} {l1 l2 : Level} (h : LRel D l1 l2) (id : Id) (n : Nat) :
    (l1.amend id n).2 = (l2.amend id n).2 ∧ LRel D (l1.amend id n).1 (l2.amend id n).1 := by
  simp only [Level.amend, ← h.q.find id]
  cases h1 : l1.map.find id with
  | none => exact ⟨rfl, h⟩
  | some o =>
    have hid : (o.withReduced n).id = id := by rw [withReduced_id, (find_some h1).2]
    have hD : D id = false := by
      cases hv : D id
      · rfl
      · rw [h.q.dead id hv] at h1; cases h1
    exact ⟨rfl, h.price, by simp [h.vis], by simp [h.hid], h.cnt,
      hid ▸ (h.q.erase id h.q.tick).push (o.withReduced n) (hid ▸ hD)⟩

theorem update_rel {D : Id → Bool} {l1 l2 : Level} (h : LRel D l1 l2) (u : Update) :
    (l1.update u).2 = (l2.update u).2 ∧ LRel D (l1.update u).1 (l2.update u).1 := by
  rw [l1.update_eq, l2.update_eq, ← h.price]
  split
  · exact remove_rel h _
  · split
    · exact amend_rel h _ _
    · exact ⟨rfl, h⟩

/-- one operation of a continuation -/
inductive COp where
  | add (o : Order)
  | upd (u : Update)
  | mtch (q : Nat) (taker : Id)

/-- what its caller sees -/
inductive COut where
  | added (o : Order)
  | upd (r : UpdOut)
  | matched (r : MatchResult)

def stepC (l : Level) (g : Nat) : COp → COut × Level × Nat
  | .add o => (.added o, l.addOrder o, g)
  | .upd u => (.upd (l.update u).2, (l.update u).1, g)
  | .mtch q t => (.matched (l.matchOrder q t g).2.1, (l.matchOrder q t g).1, (l.matchOrder q t g).2.2)

def runC (l : Level) (g : Nat) : List COp → List COut × Level × Nat
  | [] => ([], l, g)
  | op :: rest =>
    let r := stepC l g op
    let rr := runC r.2.1 r.2.2 rest
    (r.1 :: rr.1, rr.2.1, rr.2.2)

/-- the continuation never adds an id of `D` -/
def Avoids (D : Id → Bool) (ops : List COp) : Prop := ∀ o, COp.add o ∈ ops → D o.id = false

theorem step_rel {D : Id → Bool} {l1 l2 : Level} (h : LRel D l1 l2) (g : Nat) (op : COp)
    (hop : ∀ o, op = .add o → D o.id = false) :
    (stepC l1 g op).1 = (stepC l2 g op).1 ∧ (stepC l1 g op).2.2 = (stepC l2 g op).2.2 ∧
      LRel D (stepC l1 g op).2.1 (stepC l2 g op).2.1 := by
  cases op with
  | add o => exact ⟨rfl, rfl, add_rel h o (hop o rfl)⟩
  | upd u => exact ⟨congrArg COut.upd (update_rel h u).1, rfl, (update_rel h u).2⟩
  | mtch q t =>
    obtain ⟨e, hr⟩ := match_rel h q t g
    have e1 := congrArg (fun r : MatchResult × Nat => COut.matched r.1) e
    have e2 := congrArg (fun r : MatchResult × Nat => r.2) e
    exact ⟨e1, e2, hr⟩

/-- **every continuation**: related levels answer every sequence of adds, cancels, amends, price moves,
    replaces and matches identically, as long as no id of `D` is added -/
theorem run_rel (D : Id → Bool) : ∀ (ops : List COp) {l1 l2 : Level} (_ : LRel D l1 l2) (g : Nat), Avoids D ops →
    (runC l1 g ops).1 = (runC l2 g ops).1
  | [], _, _, _, _, _ => rfl
  | op :: rest, l1, l2, h, g, hav => by
    obtain ⟨e1, e2, hr⟩ := step_rel h g op (fun o e => hav o (by simp [e]))
    have ih := run_rel D rest hr (stepC l1 g op).2.2 (fun o ho => hav o (by simp [ho]))
    simp only [runC]
    rw [e1, ← e2, ih]

/-- the ids whose tickets are still queued although the order is gone (cancelled, or amended or moved away) -/
def staleIds (l : Level) (id : Id) : Bool := decide (id ∈ l.tickets) && (l.map.find id).isNone

/-- **C11 for the levels where it holds, every continuation**: if the original's hand-out order is its
    timestamp-sorted listing at the moment of the snapshot and its ticket queue holds no duplicate
    tickets, the restored level answers every continuation — adds, cancels, quantity amends, price
    moves, replaces, matches, in any order and number — exactly as the original does, provided the
    continuation does not re-add an id whose stale ticket the original still queues (C04/F2) -/
theorem C11_continuations {l : Level} (h : l.Inv) (ht : l.tickets.Nodup) (hl : live l = l.listing)
    (ops : List COp) (g : Nat) (hav : Avoids (staleIds l) ops) :
    (runC (Level.fromSnapshot l.snapshot) g ops).1 = (runC l g ops).1 := by
  have hp := sortByTs_perm l.map
  have hfind : ∀ id, OMap.find l.listing id = l.map.find id :=
    find_perm hp h.snapshot_good.nodup
  have hrel : LRel (staleIds l) (Level.fromSnapshot l.snapshot) l := by
    rw [h.restore_eq]
    refine ⟨rfl, rfl, rfl, rfl, hfind, fun id hid => ?_, ?_⟩
    · simp only [staleIds, Bool.and_eq_true, Option.isNone_iff_eq_none] at hid
      rw [hfind]; exact hid.2
    · -- the restored queue holds one ticket per live order, in hand-out order; so does the original's
      -- once its stale tickets are deleted
      show (ids l.listing).filter _ = l.tickets.filter _
      rw [← hl, live, ← ids_liveOrder l.map l.tickets ht, List.filter_filter]
      apply List.filter_congr
      intro x hx
      simp only [staleIds, hx, decide_true, Bool.true_and]
      cases l.map.find x <;> simp
  exact run_rel (staleIds l) ops hrel g hav

/-- a continuation made of match requests: quantity, taker id -/
def runMatches (l : Level) (g : Nat) : List (Nat × Id) → List MatchResult × Level × Nat
  | [] => ([], l, g)
  | (q, t) :: rest =>
    let r := l.matchOrder q t g
    let rr := runMatches r.1 r.2.2 rest
    (r.2.1 :: rr.1, rr.2.1, rr.2.2)

theorem runC_mtch : ∀ (reqs : List (Nat × Id)) (l : Level) (g : Nat),
    (runC l g (reqs.map fun p => .mtch p.1 p.2)).1 = (runMatches l g reqs).1.map .matched
  | [], _, _ => rfl
  | (q, t) :: rest, l, g => by simp [runC, runMatches, stepC, runC_mtch rest]

/-- **C11 for the levels where it holds**: under the same hypotheses the restored level answers every
    continuation of match requests with identical transactions, ids, remaining quantities and filled
    lists. A special case of `C11_continuations`: match requests add nothing, so the proviso is void. -/
theorem C11_matches {l : Level} (h : l.Inv) (ht : l.tickets.Nodup) (hl : live l = l.listing)
    (reqs : List (Nat × Id)) (g : Nat) :
    (runMatches (Level.fromSnapshot l.snapshot) g reqs).1 = (runMatches l g reqs).1 := by
  have := C11_continuations h ht hl (reqs.map fun p => .mtch p.1 p.2) g (fun o ho => by simp at ho)
  rw [runC_mtch, runC_mtch] at this
  exact (List.map_inj_right fun _ _ e => COut.matched.inj e).1 this

def A : Order := ⟨⟨false, 1⟩, 100, 10, .sell, 5, .gtc, .standard⟩   -- arrives first, timestamp 5
def B : Order := ⟨⟨false, 2⟩, 100, 10, .sell, 3, .gtc, .standard⟩   -- arrives second, timestamp 3
def taker : Id := ⟨false, 9⟩

/-- **the full property fails**: add A (ts 5), add B (ts 3). The original level executes a match of
    4 against A; the level restored from its snapshot executes it against B. -/
theorem C11_counterexample :
    let l := (Level.new 100).addOrder A |>.addOrder B
    (l.matchOrder 4 taker 0).2.1.txs.map (·.maker) = [A.id] ∧
      ((Level.fromSnapshot l.snapshot).matchOrder 4 taker 0).2.1.txs.map (·.maker) = [B.id] := by
  constructor <;>
  simp [A, B, taker, Level.new, Level.addOrder, Level.matchOrder, Level.finishMatch, matchLoop, popLive,
    OMap.find, OMap.erase, OMap.insert, matchAgainst, Acc.visit, Acc.requeue, requeueAside, wadd, wsub,
    Stats.recordExec, Side.opposite, Level.fromSnapshot, Level.snapshot, Level.listing, sortByTs, insertByTs,
    Snapshot.refresh, satFold, sadd, Q.fromVec, Q.push, Order.hid, Kind.hidden]

/-! non-vacuity: a level whose hand-out order is its listing (timestamps in arrival order) -/
example : live ((Level.new 100).addOrder B |>.addOrder A) = ((Level.new 100).addOrder B |>.addOrder A).listing := by
  decide

/-! non-vacuity: the relation is inhabited by a level with a stale ticket (B cancelled) and its restore,
    and a continuation with an add, an amend and a match meets the hypotheses -/
example :
    let l := ((Level.new 100).addOrder B |>.addOrder A |>.update (.cancel B.id)).1
    l.tickets.Nodup ∧ live l = l.listing ∧
      Avoids (staleIds l) [.add ⟨⟨false, 7⟩, 100, 3, .sell, 9, .gtc, .standard⟩, .upd (.quantity A.id 4), .mtch 5 taker] := by
  refine ⟨by decide, by decide, ?_⟩
  intro o ho
  simp at ho
  subst ho
  decide

end PLV.C11
