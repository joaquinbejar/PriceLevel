/-
  Which values "fit their Rust types": the range hypotheses of the codec theorems (C16, C17, C09).
  The model's numbers are unbounded `Nat`/`Int`; the crate's are `u64` / `i64` / `u128` ids. Every
  codec theorem is stated for every value satisfying these predicates and nothing else.
-/
import PLV.Model.Text

namespace PLV
open PLV.Text

/-- numeric fields of an order fit their Rust types -/
structure OrderOk (o : Order) : Prop where
  id : o.id.val < 2 ^ 128
  price : o.price < W
  vis : o.vis < W
  ts : o.ts < W
  tif : ∀ n, o.tif = .gtd n → n < W
  kind : match o.kind with
    | .trailingStop t r => t < W ∧ r < W
    | .pegged off _ => -9223372036854775808 ≤ off ∧ off < 9223372036854775808
    | .iceberg h => h < W
    | .reserve h thr amt _ => h < W ∧ thr < W ∧ (∀ a, amt = some a → a < W)
    | _ => True

/-- numeric fields of an update fit their Rust types -/
def UpdateOk : Update → Prop
  | .price id p => id.val < 2 ^ 128 ∧ p < W
  | .quantity id n => id.val < 2 ^ 128 ∧ n < W
  | .priceQty id p n => id.val < 2 ^ 128 ∧ p < W ∧ n < W
  | .cancel id => id.val < 2 ^ 128
  | .replace id p n _ => id.val < 2 ^ 128 ∧ p < W ∧ n < W

/-- numeric fields of a transaction fit their Rust types -/
structure TxOk (t : TxRec) : Prop where
  txid : t.txid < 2 ^ 128
  taker : t.taker.val < 2 ^ 128
  maker : t.maker.val < 2 ^ 128
  price : t.price < W
  qty : t.qty < W
  ts : t.ts < W

/-- numeric fields of a match result fit their Rust types -/
structure MROk (r : MRRec) : Prop where
  id : r.orderId.val < 2 ^ 128
  txs : ∀ t ∈ r.txs, TxOk t
  rem : r.remaining < W
  filled : ∀ i ∈ r.filled, i.val < 2 ^ 128

/-- numeric fields of a snapshot fit their Rust types -/
structure SnapOk (s : Snapshot) : Prop where
  price : s.price < W
  vis : s.vis < W
  hid : s.hid < W
  cnt : s.cnt < W
  orders : ∀ o ∈ s.orders, OrderOk o


end PLV
