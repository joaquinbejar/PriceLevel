/-
  C04 — Resting orders trade in arrival order (time priority).

  The full property is FALSE of the crate (and of the model, which agrees with it): two counterexamples
  at the end, each replayed against the real crate by the corpus. What holds is stated on the hand-out
  order (`live`: the order in which pops would hand the resting orders out): every operation acts on it
  as the property prescribes, except that (F1) a maker that survives a visit without being replenished
  is re-queued at the back instead of keeping its place, and (F2) a push of an id that still has a
  ticket in the queue lands on that ticket's position instead of the back. Both are known findings.
  `C04_partial` says this operation by operation; `C04_match_composed` composes the per-visit facts over the whole
  loop of one `match_order` call: on a level without duplicate tickets the call walks the hand-out order as a queue
  (`QSteps`: head first; a visited maker leaves, goes to the back, or is kept aside and re-queued at the very end).
  F1 is the constructor `QStep.back` for a survivor that was not replenished, F2 the no-duplicate-ticket hypothesis.
-/
import PLV.Lemmas.Queue
import PLV.Lemmas.LevelInv

namespace PLV.C04
open PLV

/-- the order in which the resting orders of a level would be executed against -/
def live (l : Level) : List Order := liveOrder l.map l.tickets

/-- a match never executes against an order while an earlier order is still waiting ahead of it:
    every maker visit takes the *head* of the hand-out order -/
theorem C04_visit_takes_head (m : OMap) (ts : List Id) {o m' ts'} (h : popLive m ts = some (o, m', ts')) :
    liveOrder m ts = o :: liveOrder m' ts' :=
  liveOrder_pop h

/-- a maker that leaves the book is simply gone; the others keep their relative order -/
theorem C04_leave (m : OMap) (ts : List Id) {o m' ts'} (h : popLive m ts = some (o, m', ts')) :
    liveOrder m' ts' = (liveOrder m ts).tail := by
  rw [C04_visit_takes_head m ts h]; rfl

/-- a maker whose display was replenished moves to the back — provided no older ticket of its id is
    left in the queue (F2 otherwise). The same code path puts a *partially filled* survivor at the
    back too, where the property wants it to keep its place: that is F1. -/
theorem C04_requeue_goes_back (m' : OMap) (ts' : List Id) (u : Order) (hid : u.id ∉ ts') (hm : u.id ∉ ids m') :
    liveOrder (m'.insert u) (ts' ++ [u.id]) = liveOrder m' ts' ++ [u] :=
  liveOrder_push_fresh u ts' m' hid

/-- an added order joins at the back — provided its id has no (stale) ticket left (F2 otherwise) -/
theorem C04_add_joins_back {l : Level} (h : l.Inv) (o : Order) (hfresh : o.id ∉ l.tickets) :
    live (l.addOrder o) = live l ++ [o] :=
  liveOrder_push_fresh o l.tickets l.map hfresh

/-- a cancelled (or moved) order disappears from the hand-out order; nothing else moves -/
theorem C04_cancel {l : Level} (id : Id) : live (l.removeOrder id).1 = Fifo.removeAll id (live l) := by
  rw [live, (l.removeOrder_queue id).1, (l.removeOrder_queue id).2]
  exact liveOrder_erase id l.tickets l.map

/-- an order keeps its place when its quantity is amended at the same price -/
theorem C04_amend_keeps_place {l : Level} (h : l.Inv) (id : Id) (n : Nat) {old : Order}
    (hf : l.map.find id = some old) :
    live (l.amend id n).1 = replaceById (old.withReduced n) (live l) := by
  have hid : (old.withReduced n).id = id := by rw [withReduced_id]; exact (find_some hf).2
  have hm : id ∈ ids l.map := mem_ids_of_find hf
  rw [Level.amend_eq hf, ← hid]
  exact liveOrder_amend (old.withReduced n) l.tickets l.map (hid ▸ h.covered _ hm) (hid ▸ hm)

/-- **C04_partial** for the operations other than match, as one statement: on a well-formed level,
    add / cancel / same-price amend act on the hand-out order exactly as the property prescribes,
    the only exception being an add whose id still has a ticket in the queue (F2) -/
theorem C04_partial {l : Level} (h : l.Inv) :
    (∀ o, o.id ∉ l.tickets → live (l.addOrder o) = live l ++ [o]) ∧
    (∀ id, live (l.removeOrder id).1 = Fifo.removeAll id (live l)) ∧
    (∀ id n old, l.map.find id = some old → live (l.amend id n).1 = replaceById (old.withReduced n) (live l)) :=
  ⟨fun o ho => C04_add_joins_back h o ho, fun id => C04_cancel id, fun id n _ hf => C04_amend_keeps_place h id n hf⟩

/-- one step of the abstract queue the match loop walks: the head is visited; it leaves, goes to the
    back (re-queued: partially filled or replenished), or is kept aside (nothing displayed, nothing
    to replenish with) -/
inductive QStep : Nat × List Order × List Order → Nat × List Order × List Order → Prop
  | leave (rem : Nat) (o : Order) (L aside : List Order) (h0 : rem ≠ 0) (hu : (matchAgainst o rem).updated = none) :
      QStep (rem, o :: L, aside) ((matchAgainst o rem).remaining, L, aside)
  | back (rem : Nat) (o u : Order) (L aside : List Order) (h0 : rem ≠ 0) (hu : (matchAgainst o rem).updated = some u)
      (hp : ¬ ((matchAgainst o rem).consumed = 0 ∧ (matchAgainst o rem).hiddenRed = 0)) :
      QStep (rem, o :: L, aside) ((matchAgainst o rem).remaining, L ++ [u], aside)
  | aside (rem : Nat) (o u : Order) (L aside : List Order) (h0 : rem ≠ 0) (hu : (matchAgainst o rem).updated = some u)
      (hp : (matchAgainst o rem).consumed = 0 ∧ (matchAgainst o rem).hiddenRed = 0) :
      QStep (rem, o :: L, aside) ((matchAgainst o rem).remaining, L, aside ++ [u])

inductive QSteps : Nat × List Order × List Order → Nat × List Order × List Order → Prop
  | refl (s) : QSteps s s
  | tail {s t u} : QSteps s t → QStep t u → QSteps s u

/-- what the loop keeps true of the ticket queue of a level without duplicate or stale-duplicate
    tickets: tickets and map ids without repetition, the set-aside orders out of both.
    Fields: `t`ickets / `m`ap / `a`side; `…n` = no repetition, `am` / `at'` = aside ids not in the map / the tickets. -/
structure QInv (m : OMap) (ts : List Id) (a : Acc) : Prop where
  tn : ts.Nodup
  mn : (ids m).Nodup
  am : ∀ x ∈ ids a.aside, x ∉ ids m
  at' : ∀ x ∈ ids a.aside, x ∉ ts
  an : (ids a.aside).Nodup

/-- everything the three branches of the loop need about a successful pop, in one place: what is left of the tickets
    and of the map is still free of repetitions and no longer knows the popped id, and the popped order was the head of
    the hand-out order -/
theorem QInv.popped {m : OMap} {ts : List Id} {a : Acc} (h : QInv m ts a) {o m' ts'}
    (hp : popLive m ts = some (o, m', ts')) :
    ts'.Nodup ∧ o.id ∉ ts' ∧ (ids m').Nodup ∧ o.id ∉ ids m' ∧ o.id ∈ ids m ∧ m' = m.erase o.id ∧
      (∀ x ∈ ts', x ∈ ts) ∧ liveOrder m ts = o :: liveOrder m' ts' := by
  obtain ⟨h1, h2⟩ := popLive_spec hp
  obtain ⟨n1, n2⟩ := popLive_nodup hp h.tn
  refine ⟨n1, n2, h2 ▸ nodup_erase _ h.mn, ?_, ?_, h2, (popLive_tickets hp).2, liveOrder_pop hp⟩
  · rw [h2]; exact not_mem_ids_erase _ _
  · exact mem_ids_of_find h1

theorem QInv.aside_step {m : OMap} {ts : List Id} {a : Acc} (hi : QInv m ts a) (price : Nat) (taker : Id) {rem : Nat}
    {o m' ts' u} (hp : popLive m ts = some (o, m', ts')) (hu : (matchAgainst o rem).updated = some u) :
    QInv m' ts' ((a.visit price taker o (matchAgainst o rem)).pushAside u) := by
  obtain ⟨n1, n2, n3, _, n5, rfl, hsub, _⟩ := hi.popped hp
  have hid := (ma_stay hu).1
  obtain ⟨h1, h2⟩ := aside_push hi.an hi.am n5 hid
  refine ⟨n1, n3, ?_, ?_, ?_⟩ <;> rw [pushAside_aside, visit_aside]
  · exact h2
  · intro x hx ht
    simp only [ids_append, ids_cons, ids_nil, List.mem_append, List.mem_singleton] at hx
    rcases hx with hx | rfl
    · exact hi.at' x hx (hsub x ht)
    · exact n2 (hid ▸ ht)
  · exact h1

theorem QInv.back_step {m : OMap} {ts : List Id} {a : Acc} (hi : QInv m ts a) (price : Nat) (taker : Id) {rem : Nat}
    {o m' ts' u} (hp : popLive m ts = some (o, m', ts')) (hu : (matchAgainst o rem).updated = some u) :
    QInv (m'.insert u) (ts' ++ [u.id]) ((a.visit price taker o (matchAgainst o rem)).requeue (matchAgainst o rem).hiddenRed) := by
  obtain ⟨n1, n2, n3, _, n5, rfl, hsub, _⟩ := hi.popped hp
  have hid := (ma_stay hu).1
  refine ⟨nodup_snoc.2 ⟨n1, hid ▸ n2⟩, nodup_insert u n3, ?_, ?_, by simpa using hi.an⟩
  · rw [requeue_aside, visit_aside]; exact aside_requeue hi.am n5 hid
  · rw [requeue_aside, visit_aside]
    intro x hx ht
    rcases List.mem_append.1 ht with ht | ht
    · exact hi.at' x hx (hsub x ht)
    · rw [List.mem_singleton.1 ht, hid] at hx; exact hi.am _ hx n5

theorem QInv.leave_step {m : OMap} {ts : List Id} {a : Acc} (hi : QInv m ts a) (price : Nat) (taker : Id) {rem : Nat}
    {o m' ts'} (hp : popLive m ts = some (o, m', ts')) :
    QInv m' ts' ((a.visit price taker o (matchAgainst o rem)).leave o (matchAgainst o rem).hiddenRed) := by
  obtain ⟨n1, _, n3, _, _, rfl, hsub, _⟩ := hi.popped hp
  refine ⟨n1, n3, ?_, ?_, ?_⟩ <;> rw [leave_aside, visit_aside]
  · exact fun x hx hm => hi.am x hx (mem_ids_erase.1 hm).1
  · exact fun x hx ht => hi.at' x hx (hsub x ht)
  · exact hi.an

/-- **the match loop is a sweep of the hand-out queue**: on a level whose ticket queue has no
    duplicate tickets, the loop of `match_order` performs, visit by visit, exactly the abstract queue
    steps `QStep` on the hand-out order — head first; leave, go to the back, or be kept aside -/
theorem C04_loop_sweeps (price : Nat) (taker : Id) (rem0 : Nat) (m0 : OMap) (ts0 : List Id) (a0 : Acc)
    (h0 : QInv m0 ts0 a0) :
    let res := matchLoop price taker rem0 m0 ts0 a0
    QInv res.2.1 res.2.2.1 res.2.2.2 ∧
      QSteps (rem0, liveOrder m0 ts0, a0.aside) (res.1, liveOrder res.2.1 res.2.2.1, res.2.2.2.aside) := by
  refine matchLoop_ind price taker
    (fun rem m ts a => QInv m ts a ∧ QSteps (rem0, liveOrder m0 ts0, a0.aside) (rem, liveOrder m ts, a.aside))
    ?_ ?_ ?_ ?_ rem0 m0 ts0 a0 ⟨h0, QSteps.refl _⟩
  · intro rem m ts a _ hp ⟨hi, hs⟩
    exact ⟨⟨List.nodup_nil, hi.mn, hi.am, fun _ _ => List.not_mem_nil, hi.an⟩,
      by simpa [liveOrder, liveOrder_pop_none hp] using hs⟩
  · intro rem m ts a o m' ts' u hz hp hu hs ⟨hi, hst⟩
    rw [C04_visit_takes_head m ts hp] at hst
    exact ⟨hi.aside_step price taker hp hu,
      by simpa using hst.tail (.aside rem o u (liveOrder m' ts') a.aside hz hu hs)⟩
  · intro rem m ts a o m' ts' u hz hp hu hs ⟨hi, hst⟩
    obtain ⟨_, n2, _, _, _, _, _, hl⟩ := hi.popped hp
    have hid := (ma_stay hu).1
    rw [hl] at hst
    exact ⟨hi.back_step price taker hp hu,
      by simpa [liveOrder_push_fresh u ts' m' (hid ▸ n2)] using
        hst.tail (.back rem o u (liveOrder m' ts') a.aside hz hu hs)⟩
  · intro rem m ts a o m' ts' hz hp hu ⟨hi, hst⟩
    rw [C04_visit_takes_head m ts hp] at hst
    exact ⟨hi.leave_step price taker hp, by simpa using hst.tail (.leave rem o (liveOrder m' ts') a.aside hz hu)⟩

/-- **one whole `match_order` call, composed**: on a well-formed level whose ticket queue holds no
    duplicate tickets, the call walks the hand-out order as a queue (`QSteps`: head first; a visited
    maker leaves, goes to the back, or is kept aside) and afterwards the orders kept aside are at the
    very back, in the order they were stepped over. Together with `C04_partial` this characterises
    the hand-out order after every operation; the deviation from the property is visible in `QStep.back`:
    a partially filled survivor goes to the back (F1) where the property wants it to keep its place. -/
theorem C04_match_composed {l : Level} (hn : l.tickets.Nodup) (hm : (ids l.map).Nodup) (q : Nat) (taker : Id) (g : Nat) :
    ∃ rem' L' aside', QSteps (q, live l, []) (rem', L', aside') ∧ live (l.matchOrder q taker g).1 = L' ++ aside' := by
  have h0 : QInv l.map l.tickets { vis := l.vis, hid := l.hid, cnt := l.cnt, stats := l.stats, g := g } :=
    ⟨hn, hm, by simp, by simp, by simp⟩
  obtain ⟨hi, hs⟩ := C04_loop_sweeps l.price taker q l.map l.tickets _ h0
  refine ⟨_, _, _, hs, ?_⟩
  simp only [live, Level.matchOrder, Level.finishMatch, requeueAside_eq _ _ _ hi.am hi.an]
  exact liveOrder_append_fresh _ _ _ hi.am hi.at' hi.an

/-! ### the full property fails: concrete histories (model = crate, replayed by the corpus)
    Closed by `simp` with the model unfolded: `matchLoop` is defined by well-founded recursion, which the
    kernel does not unfold, so `decide` gets stuck (likewise `C11_counterexample`). -/

def A : Order := ⟨⟨false, 1⟩, 100, 10, .sell, 1, .gtc, .standard⟩
def B : Order := ⟨⟨false, 2⟩, 100, 10, .sell, 2, .gtc, .standard⟩
def taker : Id := ⟨false, 9⟩

/-- F1: A(10), B(10); match 4 partially fills A; the next match 4 executes against **B**, although
    A arrived first and still displays 6 -/
theorem C04_counterexample_F1 :
    let l0 := (Level.new 100).addOrder A |>.addOrder B
    let l1 := (l0.matchOrder 4 taker 0).1
    (l1.matchOrder 4 taker 1).2.1.txs.map (·.maker) = [B.id] := by
  simp [A, B, taker, Level.new, Level.addOrder, Level.matchOrder, Level.finishMatch, matchLoop, popLive,
    OMap.find, OMap.erase, OMap.insert, matchAgainst, Acc.visit, Acc.requeue, requeueAside, wadd, wsub,
    Stats.recordExec, Side.opposite]

/-- F2: add A, add B, cancel A, add A again; the next match executes against **A**, although B has
    been waiting longer (A landed on its stale ticket) -/
theorem C04_counterexample_F2 :
    let l0 := (Level.new 100).addOrder A |>.addOrder B
    let l1 := (l0.removeOrder A.id).1.addOrder A
    (l1.matchOrder 4 taker 0).2.1.txs.map (·.maker) = [A.id] := by
  simp [A, B, taker, Level.new, Level.addOrder, Level.removeOrder, Level.matchOrder, Level.finishMatch, matchLoop,
    popLive, OMap.find, OMap.erase, OMap.insert, matchAgainst, Acc.visit, Acc.requeue, requeueAside, wadd, wsub,
    Stats.recordExec, Side.opposite]

example : ((Level.new 100).addOrder A).Inv := (Level.inv_new 100).addOrder_inv (by unfold Adm; decide)

end PLV.C04
