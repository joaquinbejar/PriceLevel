/-
  C01 — Level aggregates always equal the sums over the resting orders.
  Quantifiers: every finite history of add / match / cancel / price-move /
  quantity-amend / replace operations (`List Op`, any length), all seven order kinds, any
  quantities and match sizes, under the admissibility conditions the property itself states
  (`AdmAll`: ids unique among resting orders, sums fit in 64 bits).
-/
import PLV.Judge
import PLV.Lemmas.Construct

namespace PLV.C01
open PLV

/-- what a reader observes: counters and listing of a level -/
def observed (l : Level) : Bool := C01.ok l.vis l.hid l.cnt l.listing

/-- the invariant gives the observation: the (wrapping) counters equal the sums over the listing,
    the count equals its length, and visible + hidden does not overflow -/
theorem C01_observed_of_inv {l : Level} (h : l.Inv) : observed l = true := by
  have hs := l.listing_sums
  simp [observed, C01.ok, hs.1, hs.2.1, hs.2.2, h.vis, h.hid, h.cnt, h.fits]

/-- one operation preserves the invariant (add, match of any size, the five updates, reads) -/
theorem C01_step (s : Sys) (op : Op) (h : s.lvl.Inv) (ha : Adm s.lvl op) : (s.step op).1.lvl.Inv :=
  Sys.step_inv h op ha

/-- **C01 over histories**: after every admissible history from a fresh level, the reported
    visible quantity, hidden quantity and order count equal the sums over the listed orders. -/
theorem C01_history (p : Nat) (ops : List Op) (ha : AdmAll ⟨Level.new p, 0⟩ ops) :
    observed (Sys.run ⟨Level.new p, 0⟩ ops).lvl = true :=
  C01_observed_of_inv (Sys.run_inv ops (Level.inv_new p) ha)

/-- … and after every prefix of it (the property says "after every operation") -/
theorem C01_every_prefix (p : Nat) (ops : List Op) (ha : AdmAll ⟨Level.new p, 0⟩ ops) (n : Nat) :
    observed (Sys.run ⟨Level.new p, 0⟩ (ops.take n)).lvl = true := C01_history p _ (ha.take n)

/-- total quantity is visible plus hidden, and no aggregate wraps: the stored 64-bit counters are
    the true (unbounded) sums, all below 2^64 -/
theorem C01_no_wrap (p : Nat) (ops : List Op) (ha : AdmAll ⟨Level.new p, 0⟩ ops) :
    let l := (Sys.run ⟨Level.new p, 0⟩ ops).lvl
    l.vis + l.hid = sumVis l.map + sumHid l.map ∧ l.vis + l.hid < W ∧ l.cnt < W := by
  have h := Sys.run_inv ops (Level.inv_new p) ha
  have := h.vis; have := h.hid; have := h.cnt; have := h.fits; have := h.cfits
  simp only; omega

/-- rebuilding from a snapshot (`from_snapshot`, `From<&PriceLevelSnapshot>`, and through them the
    package and package-JSON constructors) derives the aggregates from the orders -/
theorem C01_from_snapshot (s : Snapshot) (h : s.Good) : observed (Level.fromSnapshot s) = true :=
  C01_observed_of_inv (Level.fromSnapshot_inv s h)

/-- whatever aggregate figures the snapshot carried are ignored -/
theorem C01_snapshot_aggregates_ignored (s : Snapshot) (v h c : Nat) :
    Level.fromSnapshot { s with vis := v, hid := h, cnt := c } = Level.fromSnapshot s := by
  simp [Level.fromSnapshot, Snapshot.refresh]

/-- rebuilding by re-adding the orders one by one (`TryFrom<PriceLevelData>`, serde `Deserialize`,
    `FromStr`) derives the aggregates from the orders -/
theorem C01_from_orders (p : Nat) (os : List Order) (hn : (ids os).Nodup)
    (hf : sumVis os + sumHid os < W) (hc : os.length < W) :
    observed (Level.fromOrders p os) = true :=
  C01_observed_of_inv (Level.fromOrders_inv p os hn hf hc).1

/-- a rebuilt level can be operated on like any other: the invariant is the same one -/
theorem C01_history_after_restore (s : Snapshot) (h : s.Good) (ops : List Op)
    (ha : AdmAll ⟨Level.fromSnapshot s, 0⟩ ops) :
    observed (Sys.run ⟨Level.fromSnapshot s, 0⟩ ops).lvl = true :=
  C01_observed_of_inv (Sys.run_inv ops (Level.fromSnapshot_inv s h) ha)

/-! non-vacuity: a concrete admissible history with a partial fill of a pegged order followed by
    another match (a witness of defect A, DESIGN §7: the counter wrapped on it), an iceberg
    replenishment and an amend -/
def demoOps : List Op :=
  [ .add ⟨⟨false, 1⟩, 100, 10, .sell, 1, .gtc, .pegged (-3) .midPrice⟩,
    .add ⟨⟨false, 2⟩, 100, 5, .sell, 2, .gtc, .iceberg 20⟩,
    .update (.quantity ⟨false, 2⟩ 9),
    .matchQ 7 ⟨false, 9⟩, .matchQ 7 ⟨false, 9⟩, .matchQ 40 ⟨false, 9⟩, .update (.cancel ⟨false, 2⟩) ]

example : AdmAll ⟨Level.new 100, 0⟩ demoOps := by
  refine ⟨by unfold Adm; decide, by unfold Adm; decide, ?_, trivial, trivial, trivial, trivial, trivial⟩
  intro old h
  simp [Sys.step, Level.addOrder, Level.new, OMap.insert, OMap.erase, OMap.find] at h
  subst h
  decide

end PLV.C01
