/-
  C15 — Level statistics agree with the events that actually happened.
  Sequential half: over all admissible histories (`C15_history`, `C15_ok`).
  Concurrent half: over EVERY schedule of any number of threads (`C15_concurrent`,
  `C15_concurrent_prefix`): the counters are 64-bit `fetch_add`s, so no update is lost; at any point
  they equal the events so far corrected by what calls in progress recorded early / still owe, and
  at quiescence they equal the events exactly (modulo 2^64; exactly while the sums fit).
  An event is: an add returns; a cancel returns its order; a transaction is created.
-/
import PLV.Judge
import PLV.Lemmas.Stats
import PLV.Lemmas.ConcStats

namespace PLV.C15
open PLV

/-- one operation: the four counters move by exactly the events an observer counts from the
    call's result — one add; one removal per successful cancel / price move; the executed quantity
    of a match and that quantity times the level price -/
theorem C15_step (s : Sys) (op : Op) (hinv : s.lvl.Inv) (hp : s.lvl.PriceOk) (hok : StatsOk s.lvl.stats)
    (ha : AdmP s.lvl op) :
    StatsFollow s.lvl.price s.lvl.stats (s.step op).1.lvl.stats (eventsOfStep s.lvl.price op (s.step op).2) :=
  (Sys.step_stats hp hok op ha).2.2.2

/-- **C15 over histories** (counters are 64-bit, hence "modulo 2^64"; below that bound they are the
    exact counts) -/
theorem C15_history (ops : List Op) :
    ∀ (s : Sys), s.lvl.PriceOk → StatsOk s.lvl.stats → AdmAllP s ops →
      StatsFollow s.lvl.price s.lvl.stats (s.run ops).lvl.stats (eventsOver s ops) := by
  induction ops with
  | nil => intro s _ hok _; exact .same hok
  | cons op rest ih =>
    intro s hp hok ha
    obtain ⟨hp', hprice, hok', hf⟩ := Sys.step_stats hp hok op ha.1
    exact hf.trans (hprice ▸ ih (s.step op).1 hp' hok' ha.2)

/-- from a fresh level, as the observation predicate the driver evaluates on the real crate: while
    the figures fit in 64 bits the statistics are *exactly* the event counts -/
theorem C15_ok (p : Nat) (ops : List Op) (ha : AdmAllP ⟨Level.new p, 0⟩ ops)
    (hfit : p * (eventsOver ⟨Level.new p, 0⟩ ops).exec < W)
    (hfit' : (eventsOver ⟨Level.new p, 0⟩ ops).adds < W ∧ (eventsOver ⟨Level.new p, 0⟩ ops).removed < W ∧
      (eventsOver ⟨Level.new p, 0⟩ ops).exec < W) :
    C15.ok p (Sys.run ⟨Level.new p, 0⟩ ops).lvl.stats (eventsOver ⟨Level.new p, 0⟩ ops).adds
      (eventsOver ⟨Level.new p, 0⟩ ops).removed (eventsOver ⟨Level.new p, 0⟩ ops).exec = true := by
  have h := C15_history ops ⟨Level.new p, 0⟩ (by intro x hx; simp [Level.new] at hx)
    ⟨by simp [Level.new], by simp [Level.new], by simp [Level.new], by simp [Level.new]⟩ ha
  have e1 := h.added; have e2 := h.removed; have e3 := h.qty; have e4 := h.value
  rw [show (⟨Level.new p, 0⟩ : Sys).lvl.stats.added = 0 from rfl, Nat.zero_add, Nat.mod_eq_of_lt hfit'.1] at e1
  rw [show (⟨Level.new p, 0⟩ : Sys).lvl.stats.removed = 0 from rfl, Nat.zero_add, Nat.mod_eq_of_lt hfit'.2.1] at e2
  rw [show (⟨Level.new p, 0⟩ : Sys).lvl.stats.qty = 0 from rfl, Nat.zero_add, Nat.mod_eq_of_lt hfit'.2.2] at e3
  rw [show (⟨Level.new p, 0⟩ : Sys).lvl.stats.value = 0 from rfl, Nat.zero_add,
    show (⟨Level.new p, 0⟩ : Sys).lvl.price = p from rfl, Nat.mod_eq_of_lt hfit] at e4
  simp [C15.ok, e1, e2, e3, e4]

open PLV.Conc in
/-- at EVERY point of EVERY schedule: counters = start + events so far, corrected by the calls in
    progress (an add that has bumped `orders_added` but not returned; a transaction whose quantity /
    value is not recorded yet) — modulo 2^64 -/
theorem C15_concurrent_prefix (l : Level) (g : Nat) (progs : List (List COp)) (sched : List Nat) :
    SInv l.stats (Conc.run (Cfg.init l g progs) sched) (runEv (Cfg.init l g progs) sched) := by
  have := (sinv_init l g progs).run sched
  simpa [Ev.plus] using this

open PLV.Conc in
/-- **at quiescence the statistics are exactly the events**: for every level, any number of threads
    and calls, and every schedule after which all calls have returned — `orders_added` counts the
    adds that returned, `orders_removed` the cancels that returned their order, `quantity_executed`
    and `value_executed` the quantities and quantity × price of the transactions created (modulo
    2^64; the stored values are 64-bit, so they are exact whenever the sums fit) -/
theorem C15_concurrent (l : Level) (g : Nat) (progs : List (List COp)) (sched : List Nat) (hok : StatsOk l.stats)
    (hd : allDone (Conc.run (Cfg.init l g progs) sched) = true) :
    let c := Conc.run (Cfg.init l g progs) sched
    let E := runEv (Cfg.init l g progs) sched
    c.sh.stats.added = (l.stats.added + E.adds) % W ∧ c.sh.stats.removed = (l.stats.removed + E.removed) % W ∧
      c.sh.stats.qty = (l.stats.qty + E.qty) % W ∧ c.sh.stats.value = (l.stats.value + E.value) % W := by
  intro c E
  have h := C15_concurrent_prefix l g progs sched
  have hidle := fun t ht => (done_idle hd t ht).1
  have hlt : StatsOk c.sh.stats := statsOk_run (c := Cfg.init l g progs) hok sched
  have e1 := h.added; have e2 := h.removed; have e3 := h.qty; have e4 := h.value
  rw [sumT_idle rfl hidle, Nat.add_zero] at e1 e3 e4
  rw [Nat.mod_eq_of_lt hlt.a] at e1
  rw [Nat.mod_eq_of_lt hlt.r] at e2
  rw [Nat.mod_eq_of_lt hlt.q] at e3
  rw [Nat.mod_eq_of_lt hlt.v] at e4
  exact ⟨e1, e2, e3, e4⟩

/-! non-vacuity: two threads, an add racing a match; the schedule below completes both -/
example : Conc.allDone (Conc.run (Conc.Cfg.init ((Level.new 100).addOrder ⟨⟨false, 1⟩, 100, 5, .sell, 1, .gtc, .standard⟩) 0
    [[.add ⟨⟨false, 2⟩, 100, 7, .sell, 2, .gtc, .standard⟩], [.matchQ 3 ⟨false, 9⟩]])
    [1, 0, 1, 0, 1, 0, 1, 0, 1, 0, 1, 0, 1, 1, 1, 1, 1, 1]) = true := by decide

/-! non-vacuity -/
example : AdmAllP ⟨Level.new 100, 0⟩
    [.add ⟨⟨false, 1⟩, 100, 10, .sell, 1, .gtc, .standard⟩, .matchQ 4 ⟨false, 9⟩, .update (.cancel ⟨false, 1⟩)] := by
  refine ⟨⟨by unfold Adm; decide, rfl⟩, ⟨trivial, trivial⟩, ⟨trivial, trivial⟩, trivial⟩

end PLV.C15
