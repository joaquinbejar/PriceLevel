/-
  C12 — Concurrent readers never observe wrapped or impossible aggregates.
  For EVERY schedule and EVERY prefix of it (the theorem is about the
  configuration after an arbitrary schedule, so a reader's load — one more step that can be
  scheduled anywhere — sees exactly these values).
-/
import PLV.Lemmas.ConcInit

namespace PLV.C12
open PLV PLV.Conc

/-- at every instant of any execution the three stored counters are exactly the un-wrapped
    quantities (sum over the map + credits, all natural numbers: nothing is ever "owed"), and lie
    between zero and the total ever supplied to the level -/
theorem C12_in_range {l : Level} (hl : l.Inv) (g : Nat) {progs : List (List COp)} (ha : ProgAdm l progs)
    (hQ : supplyQ l progs < W) (hN : supplyC l progs < W) (sched : List Nat) :
    let c := Conc.run (Cfg.init l g progs) sched
    c.sh.vis ≤ supplyQ l progs ∧ c.sh.hid ≤ supplyQ l progs ∧ c.sh.cnt ≤ supplyC l progs ∧
      c.sh.vis = sumVis c.sh.map + sumT (fun t => cV t.pc) c.ts := by
  obtain ⟨e1, _, _, b1, b2, b3⟩ := ((init_inv hl g ha).run sched).exact hQ hN
  exact ⟨b1, b2, b3, e1⟩

/-- what a reader's load returns is the stored counter (reads are single steps that change nothing) -/
theorem C12_reader_sees_counter (s : Shared) :
    (tstep s .rdVis).2.1 = .done (toString s.vis) ∧ (tstep s .rdHid).2.1 = .done (toString s.hid) ∧
      (tstep s .rdCnt).2.1 = .done (toString s.cnt) ∧ (tstep s .rdVis).1 = s := ⟨rfl, rfl, rfl, rfl⟩

/-- `BInv` is inductive: the invariant `CInv`, the supply potential (book + credits + still to be
    brought) below its bounds — no step creates quantity — and the three counters 64-bit values -/
theorem C12_potential_monotone {Q N : Nat} (c : Cfg) (i : Nat) (h : BInv Q N c) : BInv Q N (Conc.step c i).1 :=
  h.step i

end PLV.C12
