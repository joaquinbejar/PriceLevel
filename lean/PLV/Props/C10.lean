/-
  C10 — Snapshot and serialization round-trips preserve content; aggregates are derived.
  (The byte-level codecs through which the package / JSON / text routes
  pass are C16 / C17; here: what is rebuilt from the orders they carry.)
-/
import PLV.Lemmas.Restore
import PLV.Props.C01

namespace PLV.C10
open PLV

/-- a level's order listing shows each resting order exactly once, in non-decreasing timestamp
    order -/
theorem C10_listing {l : Level} (h : l.Inv) :
    l.listing.Perm l.map ∧ (ids l.listing).Nodup ∧ SortedTs l.listing :=
  ⟨sortByTs_perm _, h.snapshot_good.nodup, sorted_sortByTs _⟩

/-- rebuilding a level from its own snapshot (`from_snapshot`, `From<&PriceLevelSnapshot>`, and
    the package / package-JSON routes, which go through the same function) always succeeds (the
    model function is total) and yields the same price, the same set of orders field for field and
    the same aggregates; the result is again a well-formed level -/
theorem C10_snapshot_roundtrip {l : Level} (h : l.Inv) :
    let l' := Level.fromSnapshot l.snapshot
    l'.price = l.price ∧ l'.map.Perm l.map ∧ (∀ id, l'.map.find id = l.map.find id) ∧
      l'.vis = l.vis ∧ l'.hid = l.hid ∧ l'.cnt = l.cnt ∧ l'.Inv := by
  have hp := sortByTs_perm l.map
  have hinv := Level.fromSnapshot_inv _ h.snapshot_good
  rw [h.restore_eq] at hinv ⊢
  exact ⟨rfl, hp, find_perm hp h.snapshot_good.nodup, rfl, rfl, rfl, hinv⟩

/-- rebuilding by re-adding the listed orders one by one (`TryFrom<PriceLevelData>`, serde
    `Deserialize`, `FromStr`) yields the same price, orders and aggregates -/
theorem C10_data_roundtrip {l : Level} (h : l.Inv) :
    let l' := Level.fromOrders l.price l.listing
    l'.price = l.price ∧ (∀ id, id ∈ ids l'.map ↔ id ∈ ids l.map) ∧ l'.Inv ∧
      l'.vis = l.vis ∧ l'.hid = l.hid ∧ l'.cnt = l.cnt := by
  have hs := l.listing_sums
  have hf := h.fits; have hc := h.cfits
  obtain ⟨hinv, hmap, hpr⟩ := Level.fromOrders_inv l.price l.listing h.snapshot_good.nodup (by omega) (by omega)
  refine ⟨hpr, fun id => by rw [hmap]; exact (perm_ids (sortByTs_perm l.map)).mem_iff, hinv, ?_, ?_, ?_⟩
  · rw [hinv.vis, hmap, hs.1, h.vis]
  · rw [hinv.hid, hmap, hs.2.1, h.hid]
  · rw [hinv.cnt, hmap, hs.2.2, h.cnt]

/-- every way of constructing a level from external data derives the aggregates from the orders it
    contains: aggregate figures carried by the input are never believed -/
theorem C10_derived (s : Snapshot) (v hd c : Nat) (hg : s.Good) :
    Level.fromSnapshot { s with vis := v, hid := hd, cnt := c } = Level.fromSnapshot s ∧
      (Level.fromSnapshot s).vis = sumVis s.orders ∧ (Level.fromSnapshot s).hid = sumHid s.orders ∧
      (Level.fromSnapshot s).cnt = s.orders.length := by
  refine ⟨C01.C01_snapshot_aggregates_ignored s v hd c, ?_⟩
  rw [Level.fromSnapshot_eq s hg]; exact ⟨rfl, rfl, rfl⟩

/-- `C10_snapshot_roundtrip` for every state reachable by an admissible history (so including partially
    filled and replenished orders) -/
theorem C10_history (p : Nat) (ops : List Op) (ha : AdmAll ⟨Level.new p, 0⟩ ops) :
    let l := (Sys.run ⟨Level.new p, 0⟩ ops).lvl
    (Level.fromSnapshot l.snapshot).map.Perm l.map ∧ (Level.fromSnapshot l.snapshot).vis = l.vis ∧
      (Level.fromSnapshot l.snapshot).hid = l.hid ∧ (Level.fromSnapshot l.snapshot).cnt = l.cnt := by
  have h := Sys.run_inv ops (Level.inv_new p) ha
  obtain ⟨_, hperm, _, hvis, hhid, hcnt, _⟩ := C10_snapshot_roundtrip h
  exact ⟨hperm, hvis, hhid, hcnt⟩

example : ((Level.new 100).addOrder ⟨⟨false, 1⟩, 100, 5, .sell, 7, .gtc, .iceberg 20⟩).Inv :=
  (Level.inv_new 100).addOrder_inv (by unfold Adm; decide)

end PLV.C10
