/-
  C17 — JSON encodings round-trip for every value.
  The codecs are modelled at the level of the serde data model rendered as JSON trees
  (`PLV.J.Json`, objects as ordered lists of pairs). Tree level (`codec_*`): `Codec ok enc dec`
  packs, for EVERY value satisfying `ok` (its numeric fields fit their Rust types), that `enc v` is
  a clean tree and `dec (enc v) = v` — side, time-in-force (incl. the externally tagged GTD
  variant), peg reference, ids, orders (seven kinds, absent replenish amount), order lists, updates,
  transactions, transaction lists, match results (with their lists of transactions and of filled
  ids, `Codec.list`), statistics, snapshots, level data, packages. Text level (`C17_text_*`):
  `dec (parse (print (enc v))) = v`; integers are exact `Int`s, nothing passes through a float,
  which is the "integers above 2^53" clause.

  Modelled: that `render` / `parseJson` are what `serde_json::to_string` / `from_str` do. It is
  third-party code; the two are compared with it byte for byte / tree for tree on every run (E-json).
-/
import PLV.Lemmas.JsonCodec
import PLV.Props.Ranges

namespace PLV.C17
open PLV PLV.Text PLV.J

/-- every key and variant name the encoders write is printable ASCII without quote and backslash: a finite fact,
    checked by evaluation, one key at a time (`cleanStr_lit`). A conjunction and not a list with `∈`: `simp` makes one
    rewrite rule of each conjunct and finds a key by its literal, where membership in a list would be searched by
    comparing strings one after the other at every use. -/
theorem cleanStr_keys :
    cleanStr (lit "id") = true ∧ cleanStr (lit "price") = true ∧ cleanStr (lit "quantity") = true ∧
    cleanStr (lit "visible_quantity") = true ∧ cleanStr (lit "hidden_quantity") = true ∧
    cleanStr (lit "side") = true ∧ cleanStr (lit "timestamp") = true ∧ cleanStr (lit "time_in_force") = true ∧
    cleanStr (lit "extra_fields") = true ∧ cleanStr (lit "trail_amount") = true ∧
    cleanStr (lit "last_reference_price") = true ∧ cleanStr (lit "reference_price_offset") = true ∧
    cleanStr (lit "reference_price_type") = true ∧ cleanStr (lit "replenish_threshold") = true ∧
    cleanStr (lit "replenish_amount") = true ∧ cleanStr (lit "auto_replenish") = true ∧
    cleanStr (lit "Standard") = true ∧ cleanStr (lit "PostOnly") = true ∧ cleanStr (lit "MarketToLimit") = true ∧
    cleanStr (lit "TrailingStop") = true ∧ cleanStr (lit "PeggedOrder") = true ∧
    cleanStr (lit "IcebergOrder") = true ∧ cleanStr (lit "ReserveOrder") = true ∧ cleanStr (lit "order_id") = true ∧
    cleanStr (lit "new_price") = true ∧ cleanStr (lit "new_quantity") = true ∧ cleanStr (lit "UpdatePrice") = true ∧
    cleanStr (lit "UpdateQuantity") = true ∧ cleanStr (lit "UpdatePriceAndQuantity") = true ∧
    cleanStr (lit "Cancel") = true ∧ cleanStr (lit "Replace") = true ∧ cleanStr (lit "transaction_id") = true ∧
    cleanStr (lit "taker_order_id") = true ∧ cleanStr (lit "maker_order_id") = true ∧
    cleanStr (lit "taker_side") = true ∧ cleanStr (lit "transactions") = true ∧
    cleanStr (lit "remaining_quantity") = true ∧ cleanStr (lit "is_complete") = true ∧
    cleanStr (lit "filled_order_ids") = true ∧ cleanStr (lit "orders_added") = true ∧
    cleanStr (lit "orders_removed") = true ∧ cleanStr (lit "orders_executed") = true ∧
    cleanStr (lit "quantity_executed") = true ∧ cleanStr (lit "value_executed") = true ∧
    cleanStr (lit "last_execution_time") = true ∧ cleanStr (lit "first_arrival_time") = true ∧
    cleanStr (lit "sum_waiting_time") = true ∧ cleanStr (lit "order_count") = true ∧ cleanStr (lit "orders") = true ∧
    cleanStr (lit "version") = true ∧ cleanStr (lit "snapshot") = true ∧ cleanStr (lit "checksum") = true ∧
    cleanStr (lit "BUY") = true ∧ cleanStr (lit "SELL") = true ∧ cleanStr (lit "GTC") = true ∧
    cleanStr (lit "IOC") = true ∧ cleanStr (lit "FOK") = true ∧ cleanStr (lit "DAY") = true ∧
    cleanStr (lit "GTD") = true ∧ cleanStr (lit "BestBid") = true ∧ cleanStr (lit "BestAsk") = true ∧
    cleanStr (lit "MidPrice") = true ∧ cleanStr (lit "LastTrade") = true := by
  and_intros <;> apply cleanStr_lit <;> decide

attribute [local simp] cleanStr_keys clean_null clean_bool clean_str clean_arr clean_obj cleanFields_nil cleanFields_cons
  clean_nat clean_int ok_bind countKey_nil countKey_skip countKey_hit field_skip field_hit fieldOpt_eq statField_eq asObj
  asArr decUnit decBool decStr Except.map decU64_num decI64_num

theorem codec_side : Codec (fun _ => True) encSide decSide := fun s _ => by
  cases s <;> exact ⟨by simp [encSide], by simp [encSide, decSide, lit_inj]⟩

theorem codec_peg : Codec (fun _ => True) encPeg decPeg := fun p _ =>
  ⟨by cases p <;> simp [encPeg, showPeg], by simp [encPeg, decPeg, (parsePeg_showPeg p).2]⟩

theorem codec_id : Codec (fun i : Id => i.val < 2 ^ 128) encId decId := fun i h =>
  ⟨clean_id i, by simp [encId, decId, parseId_showId i h]⟩

theorem codec_uuid : Codec (· < 2 ^ 128) encUuid decUuid := fun v h =>
  ⟨clean_uuid v, by simp [encUuid, decUuid, parseUuid_showUuid h]⟩

theorem codec_tif : Codec (fun t : Tif => ∀ n, t = .gtd n → n < W) encTif decTif := fun t h => by
  cases t with
  | gtd n => exact ⟨by simp [encTif, h n rfl], by simp [encTif, decTif, lit_inj, h n rfl]⟩
  | _ => exact ⟨by simp [encTif], by simp [encTif, decTif, tifUnit, lit_inj]⟩

/-- **orders, all seven kinds** (a reserve order with and without replenish amount) -/
theorem codec_order : Codec OrderOk encOrder decOrder := fun o h => by
  obtain ⟨id, price, vis, side, ts, tif, kind⟩ := o
  obtain ⟨c1, d1⟩ := codec_id id h.id
  obtain ⟨c2, d2⟩ := codec_tif tif h.tif
  obtain ⟨c3, d3⟩ := codec_side side trivial
  have c4 := fun r => codec_peg.clean (v := r) trivial
  have d4 := fun r => codec_peg.dec_enc (v := r) trivial
  have h2 : price < W := h.price
  have h3 : vis < W := h.vis
  have h4 : ts < W := h.ts
  have hk := h.kind
  cases kind with
  | reserve hq thr amt auto =>
    cases amt <;> simp at hk <;>
    exact ⟨by simp [encOrder, orderFields, c1, c2, c3, h2, h3, h4, hk],
      by simp [encOrder, orderFields, decOrder, lit_inj, d1, d2, d3, h2, h3, h4, hk]⟩
  | _ =>
    simp at hk <;>
    exact ⟨by simp [encOrder, orderFields, c1, c2, c3, c4, h2, h3, h4, hk],
      by simp [encOrder, orderFields, decOrder, lit_inj, d1, d2, d3, d4, h2, h3, h4, hk]⟩

/-- **order lists** of any length -/
theorem codec_orders : Codec (fun os : List Order => ∀ o ∈ os, OrderOk o) encOrders decOrders := fun os h => by
  obtain ⟨c, d⟩ := codec_order.list os h
  exact ⟨by simp [encOrders, c], by simp [encOrders, decOrders, d]⟩

/-- **order updates, all five kinds** -/
theorem codec_update : Codec UpdateOk encUpdate decUpdate := fun u h => by
  have c1 := fun i hi => codec_id.clean (v := i) hi
  have d1 := fun i hi => codec_id.dec_enc (v := i) hi
  have c3 := fun s => codec_side.clean (v := s) trivial
  have d3 := fun s => codec_side.dec_enc (v := s) trivial
  cases u <;> simp [UpdateOk] at h <;>
  exact ⟨by simp [encUpdate, *], by simp [encUpdate, decUpdate, lit_inj, *]⟩

/-- **transactions** -/
theorem codec_tx : Codec TxOk encTx decTx := fun t h => by
  obtain ⟨txid, taker, maker, price, qty, side, ts⟩ := t
  obtain ⟨c0, d0⟩ := codec_uuid txid h.txid
  obtain ⟨c1, d1⟩ := codec_id taker h.taker
  obtain ⟨c2, d2⟩ := codec_id maker h.maker
  obtain ⟨c3, d3⟩ := codec_side side trivial
  have h4 : price < W := h.price
  have h5 : qty < W := h.qty
  have h6 : ts < W := h.ts
  exact ⟨by simp [encTx, *], by simp [encTx, decTx, *]⟩

/-- **transaction lists** of any length -/
theorem codec_txlist : Codec (fun l : List TxRec => ∀ t ∈ l, TxOk t) encTxList decTxList := fun l h => by
  obtain ⟨c, d⟩ := codec_tx.list l h
  exact ⟨by simp [encTxList, c], by simp [encTxList, decTxList, d]⟩

/-- **match results**: any number of transactions and of filled ids, both flags -/
theorem codec_mr : Codec MROk encMR decMR := fun r h => by
  obtain ⟨oid, txs, rem, cpl, filled⟩ := r
  obtain ⟨c1, d1⟩ := codec_id oid h.id
  obtain ⟨c2, d2⟩ := codec_txlist txs h.txs
  obtain ⟨c3, d3⟩ := codec_id.list filled h.filled
  have h4 : rem < W := h.rem
  exact ⟨by simp [encMR, *], by simp [encMR, decMR, *]⟩

/-- the counters of the statistics fit in 64 bits (the other range predicates are in `Props/Ranges.lean`) -/
def StatsFit (s : StatsRec) : Prop :=
  s.added < W ∧ s.removed < W ∧ s.executed < W ∧ s.qty < W ∧ s.value < W ∧ s.last < W ∧ s.first < W ∧ s.wait < W

/-- **statistics** (the clock default is never used: every field is present) -/
theorem codec_stats (now : Nat) : Codec StatsFit encStats (decStats now) := fun s h => by
  obtain ⟨a, r, e, q, v, l, f, w⟩ := s
  obtain ⟨h1, h2, h3, h4, h5, h6, h7, h8⟩ := h
  simp only at h1 h2 h3 h4 h5 h6 h7 h8
  exact ⟨by simp [encStats, *], by simp [encStats, decStats, statKeys, lit_inj, *]⟩

/-- **snapshots** (strict visitor) -/
theorem codec_snapshot : Codec SnapOk encSnapshot decSnapshot := fun s h => by
  obtain ⟨p, v, hq, c, os⟩ := s
  obtain ⟨c5, d5⟩ := codec_orders os h.orders
  have h1 : p < W := h.price
  have h2 : v < W := h.vis
  have h3 : hq < W := h.hid
  have h4 : c < W := h.cnt
  exact ⟨by simp [encSnapshot, *], by simp [encSnapshot, decSnapshot, snapKeys, lit_inj, *]⟩

/-- **level data** (the level's own serde form: same tree as a snapshot, lenient reader) -/
theorem codec_leveldata : Codec SnapOk encSnapshot decLevelData := fun s h => by
  obtain ⟨p, v, hq, c, os⟩ := s
  have d5 := codec_orders.dec_enc h.orders
  have h1 : p < W := h.price
  have h2 : v < W := h.vis
  have h3 : hq < W := h.hid
  have h4 : c < W := h.cnt
  exact ⟨codec_snapshot.clean h, by simp [encSnapshot, decLevelData, *]⟩

/-- **snapshot packages**, whatever the checksum string -/
theorem dec_package (p : Package) (hv : p.version < 4294967296) (hs : SnapOk p.snapshot) :
    decPackage (encPackage p) = .ok p := by
  obtain ⟨ver, s, ck⟩ := p
  have d := codec_snapshot.dec_enc hs
  simp [encPackage, decPackage, decU32_num, hv, d]

/-- packages: the checksum is any printable-ASCII string without quote/backslash (the crate's is hex) -/
theorem codec_package :
    Codec (fun p : Package => p.version < 4294967296 ∧ SnapOk p.snapshot ∧ cleanStr p.checksum = true) encPackage decPackage :=
  fun p ⟨hv, hs, hc⟩ => by
  have c := codec_snapshot.clean hs
  have hv' : p.version < W := by simp only [W]; omega
  exact ⟨by simp [encPackage, hv', hc, c], dec_package p hv hs⟩

/-- **a package still validates after the trip**: whatever `validate` answered before, it answers
    after (in particular a freshly made package, which validates, still does) -/
theorem C17_package_validates (H : List UInt8 → Str) (p : Package) (hv : p.version < 4294967296) (hs : SnapOk p.snapshot) :
    ∃ q, decPackage (encPackage p) = .ok q ∧ q.validate H = p.validate H :=
  ⟨p, dec_package p hv hs, rfl⟩

theorem C17_new_package_validates (H : List UInt8 → Str) (s : Snapshot) : (Package.new H s).validate H = .ok () := by
  simp [Package.new, Package.validate]

/-- the text trip: print the tree, read the text, decode -/
def viaText {α : Type} (dec : Json → D α) (j : Json) : Option (D α) := (parseJson (render j)).map dec

theorem viaText_clean {α : Type} (dec : Json → D α) (j : Json) (v : α) (hc : clean j = true) (ht : dec j = .ok v) :
    viaText dec j = some (.ok v) := by
  simp [viaText, parseJson_render j hc, ht]

theorem text_rt {α : Type} {ok : α → Prop} {enc : α → Json} {dec : Json → D α} (h : Codec ok enc dec) {v : α}
    (hv : ok v) : viaText dec (enc v) = some (.ok v) :=
  viaText_clean dec _ v (h.clean hv) (h.dec_enc hv)

theorem C17_text_order (o : Order) (h : OrderOk o) : viaText decOrder (encOrder o) = some (.ok o) :=
  text_rt codec_order h

theorem C17_text_update (u : Update) (h : UpdateOk u) : viaText decUpdate (encUpdate u) = some (.ok u) :=
  text_rt codec_update h

theorem C17_text_id (i : Id) (h : i.val < 2 ^ 128) : viaText decId (encId i) = some (.ok i) :=
  text_rt codec_id h

theorem C17_text_side (s : Side) : viaText decSide (encSide s) = some (.ok s) :=
  text_rt codec_side trivial

theorem C17_text_tif (t : Tif) (h : ∀ n, t = .gtd n → n < W) : viaText decTif (encTif t) = some (.ok t) :=
  text_rt codec_tif h

theorem C17_text_peg (p : PegRef) : viaText decPeg (encPeg p) = some (.ok p) :=
  text_rt codec_peg trivial

theorem C17_text_tx (t : TxRec) (h : TxOk t) : viaText decTx (encTx t) = some (.ok t) :=
  text_rt codec_tx h

theorem C17_text_mr (r : MRRec) (h : MROk r) : viaText decMR (encMR r) = some (.ok r) :=
  text_rt codec_mr h

theorem C17_text_stats (now : Nat) (s : StatsRec) (h : s.added < W ∧ s.removed < W ∧ s.executed < W ∧ s.qty < W ∧
    s.value < W ∧ s.last < W ∧ s.first < W ∧ s.wait < W) : viaText (decStats now) (encStats s) = some (.ok s) :=
  text_rt (codec_stats now) h

theorem C17_text_snapshot (s : Snapshot) (h : SnapOk s) : viaText decSnapshot (encSnapshot s) = some (.ok s) :=
  text_rt codec_snapshot h

theorem C17_text_leveldata (s : Snapshot) (h : SnapOk s) : viaText decLevelData (encSnapshot s) = some (.ok s) :=
  text_rt codec_leveldata h

theorem C17_text_package (p : Package) (hv : p.version < 4294967296) (hs : SnapOk p.snapshot)
    (hc : cleanStr p.checksum = true) : viaText decPackage (encPackage p) = some (.ok p) :=
  text_rt codec_package ⟨hv, hs, hc⟩

/-! non-vacuity: an order at the ends of the ranges, price above 2^53 -/
example : OrderOk ⟨⟨false, 0⟩, 2 ^ 53 + 1, W - 1, .sell, 0, .gtd (W - 1), .pegged (-9223372036854775808) .bestBid⟩ :=
  ⟨by decide, by decide, by decide, by decide, by intro n h; cases h; decide, by decide⟩

end PLV.C17
