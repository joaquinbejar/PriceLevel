/-
  C08 — Concurrent operations never strand or duplicate an order.
  Every schedule, any number of threads and operations.
-/
import PLV.Lemmas.ConcCover
import PLV.Lemmas.ConcInit
import PLV.Props.C06
import PLV.Lemmas.ConcSolo

namespace PLV.C08
open PLV PLV.Conc

/-- the cover invariant is inductive: every key of the map has a ticket in the queue, or a thread
    is about to push it (inserted, ticket pending), or a popper holds its ticket. `Conc.Cover.step` is
    this statement without `CInv`. -/
theorem C08_cover_step (c : Cfg) (i : Nat) (hc : Cover c) (hinv : CInv c) : Cover (Conc.step c i).1 :=
  hc.step i

/-- the level a quiescent configuration amounts to -/
def levelOf (s : Shared) : Level :=
  { price := s.price, vis := s.vis, hid := s.hid, cnt := s.cnt, map := s.map, tickets := s.tickets, stats := s.stats }

/-- **after any concurrent execution in which every thread has returned, the result is a
    well-formed level**: every resting order still has a ticket (is reachable by matching), keys are
    distinct, the aggregates equal the sums, nothing wraps -/
theorem C08_quiescent {l : Level} (hl : l.Inv) (g : Nat) {progs : List (List COp)} (ha : ProgAdm l progs)
    (hQ : supplyQ l progs < W) (hN : supplyC l progs < W) (sched : List Nat)
    (hd : allDone (Conc.run (Cfg.init l g progs) sched) = true) :
    (levelOf (Conc.run (Cfg.init l g progs) sched).sh).Inv :=
  quiescent_run hl g ha hQ hN sched hd

/-- … so a draining match issued afterwards consumes all displayed quantity and leaves aggregates
    that describe exactly what remains (C06 and C01 apply to the quiescent level) -/
theorem C08_drain {l : Level} (hl : l.Inv) (g : Nat) {progs : List (List COp)} (ha : ProgAdm l progs)
    (hQ : supplyQ l progs < W) (hN : supplyC l progs < W) (sched : List Nat)
    (hd : allDone (Conc.run (Cfg.init l g progs) sched) = true) (q : Nat) (t : Id) (g' : Nat) :
    let lq := levelOf (Conc.run (Cfg.init l g progs) sched).sh
    ((lq.matchOrder q t g').2.1.remaining > 0 → sumVis (lq.matchOrder q t g').1.map = 0) ∧
      (lq.matchOrder q t g').1.Inv := by
  have hinv := C08_quiescent hl g ha hQ hN sched hd
  exact ⟨(C06.C06_exhausts_and_at_least hinv q t g').1, hinv.matchOrder_inv q t g'⟩

/-- the draining match of `C08_drain`, issued *in the interleaved machine* by a thread running alone
    after quiescence, is that big-step match: step by step it arrives at `lq.matchOrder q t g'` and
    returns its result (`Conc.solo_eq_seq`) — so `C08_drain` speaks about the machine the schedules
    run on, not only about the sequential function. -/
theorem C08_drain_is_sequential (sh : Shared) (ts : List Thread) (i : Nat) (q : Nat) (t : Id) (rets : List String)
    (hq : q ≠ 0) (hi : ts[i]? = some { pc := .idle, todo := [.matchQ q t], rets := rets }) :
    ∃ n, Conc.run ⟨sh, ts⟩ (List.replicate n i) =
      ⟨Shared.ofLevel ((levelOf sh).matchOrder q t sh.g).1 ((levelOf sh).matchOrder q t sh.g).2.2,
       ts.set i { pc := .idle, todo := [], rets := rets ++ [showResult (resultLoc ((levelOf sh).matchOrder q t sh.g).2.1)] }⟩ := by
  have h := solo_eq_seq (levelOf sh) sh.g ts i (.matchQ q t) [] rets hi hq
  simpa [seqOp, levelOf, Shared.ofLevel] using h

/-- every order handed to the queue is handed out at most once (ownership, C03). That it is never
    handed to none — a key always keeps a ticket or a thread that owes it one — is the cover invariant
    (`C08_cover_step`, `C08_quiescent`). -/
theorem C08_never_two {l : Level} (hl : l.Inv) (g : Nat) {progs : List (List COp)} (ha : ProgAdm l progs)
    (sched : List Nat) (x : Id) :
    let c := Conc.run (Cfg.init l g progs) sched
    (ids c.sh.map).count x + sumT (fun t => (theld t).count x) c.ts ≤ 1 :=
  ((init_inv hl g ha).run sched).inv.own x

end PLV.C08
