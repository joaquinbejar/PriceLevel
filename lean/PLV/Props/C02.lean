/-
  C02 — Every match is fully accounted for and no order is ever over-filled.
-/
import PLV.Judge
import PLV.Lemmas.Lifetime

namespace PLV.C02
open PLV

/-- executed + remaining = requested, and completion is reported exactly when nothing remains -/
theorem C02_accounting {l : Level} (h : l.Inv) (q : Nat) (t : Id) (g : Nat) :
    (l.matchOrder q t g).2.1.executed + (l.matchOrder q t g).2.1.remaining = q ∧
      ((l.matchOrder q t g).2.1.complete = true ↔ (l.matchOrder q t g).2.1.remaining = 0) :=
  ⟨(Level.matchOrder_facts h q t g).acct, (Level.matchOrder_facts h q t g).complete⟩

/-- `executed_value` is the level's price times `executed_quantity` (every transaction trades at the level's price) -/
theorem C02_executed_value {l : Level} (h : l.Inv) (q : Nat) (t : Id) (g : Nat) :
    (l.matchOrder q t g).2.1.executedValue = l.price * (l.matchOrder q t g).2.1.executed := by
  have hp : ∀ tx ∈ (l.matchOrder q t g).2.1.txs, tx.price = l.price :=
    fun tx htx => ((Level.matchOrder_facts h q t g).txok tx htx).2.1
  unfold MatchResult.executedValue MatchResult.executed
  generalize (l.matchOrder q t g).2.1.txs = txs at hp
  induction txs with
  | nil => simp [sumValue, sumQty]
  | cons x rest ih =>
    simp only [sumValue, sumQty]
    rw [ih (fun tx htx => hp tx (by simp [htx])), hp x (by simp), Nat.mul_add]

/-- every transaction has a positive quantity, the level's price, the given taker id, a maker that
    was resting when the call started, and the side opposite to that maker's -/
theorem C02_transactions {l : Level} (h : l.Inv) (q : Nat) (t : Id) (g : Nat) :
    ∀ tx ∈ (l.matchOrder q t g).2.1.txs, tx.qty > 0 ∧ tx.price = l.price ∧ tx.taker = t ∧
      ∃ maker, l.map.find tx.maker = some maker ∧ tx.takerSide = maker.side.opposite :=
  (Level.matchOrder_facts h q t g).txok

/-- transaction ids are the generator's next consecutive counter values, so none was issued before and
    none repeats among the counters; for the ids derived from them see C14 (distinct, or a SHA-1 collision) -/
theorem C02_txids {l : Level} (h : l.Inv) (q : Nat) (t : Id) (g : Nat) (hg : g < W) :
    idsFrom g (l.matchOrder q t g).2.1.txs ∧
      (l.matchOrder q t g).2.2 = (g + (l.matchOrder q t g).2.1.txs.length) % W :=
  (Level.matchOrder_facts h q t g).gids hg

/-- consecutive counters are fresh (`freshIds`, the check the driver runs on the real crate) as long
    as the 64-bit counter does not wrap -/
theorem C02_txids_fresh (g : Nat) (txs : List Tx) (h : idsFrom g txs) (hw : g + txs.length ≤ W) :
    freshIds g (txs.map (·.txid)) = true := by
  induction txs generalizing g with
  | nil => rfl
  | cons x rest ih =>
    simp only [idsFrom] at h
    simp only [List.length_cons] at hw
    have hx : x.txid = g := by rw [h.1]; exact Nat.mod_eq_of_lt (by omega)
    simp only [List.map, freshIds, hx, Nat.le_refl, decide_true, Bool.true_and]
    exact ih (g + 1) h.2 (by omega)

/-- the filled-order list names exactly the makers that traded and left the book in that call -/
theorem C02_filled {l : Level} (h : l.Inv) (q : Nat) (t : Id) (g : Nat) (id : Id) :
    id ∈ (l.matchOrder q t g).2.1.filled ↔
      (0 < fillsOf id (l.matchOrder q t g).2.1.txs ∧ id ∉ ids (l.matchOrder q t g).1.map) :=
  (Level.matchOrder_facts h q t g).filled id

/-- per call, no maker trades more than it had: what was executed against it plus what it still
    rests with is at most what it rested with before -/
theorem C02_no_overfill {l : Level} (h : l.Inv) (q : Nat) (t : Id) (g : Nat) (id : Id) :
    fillsOf id (l.matchOrder q t g).2.1.txs + tot id (l.matchOrder q t g).1.map ≤ tot id l.map :=
  (Level.matchOrder_facts h q t g).ledger id

/-- **lifetime**: over any admissible history, an order never trades more than the quantity it
    brought (what it rested with at the start, plus what its adds and upward amendments brought) -/
theorem C02_lifetime (id : Id) (s : Sys) (ops : List Op) (h : s.lvl.Inv) (ha : AdmAll s ops) :
    filledOver id s ops ≤ tot id s.lvl.map + broughtOver id s ops := by
  have := lifetime_ledger id ops s h ha; omega

theorem C02_lifetime_from_new (id : Id) (p : Nat) (ops : List Op) (ha : AdmAll ⟨Level.new p, 0⟩ ops) :
    filledOver id ⟨Level.new p, 0⟩ ops ≤ broughtOver id ⟨Level.new p, 0⟩ ops := by
  have := C02_lifetime id ⟨Level.new p, 0⟩ ops (Level.inv_new p) ha
  simpa [Level.new, tot] using this

/-- what "brought" means for an add: the order's displayed plus hidden quantity -/
theorem C02_brought_add (id : Id) (s : Sys) (o : Order) (rest : List Op) (h : s.lvl.Inv)
    (ha : Adm s.lvl (.add o)) :
    broughtOver id s (.add o :: rest) =
      (if o.id = id then o.vis + o.hid else 0) + broughtOver id (s.step (.add o)).1 rest := by
  have hfresh := find_none.1 ha.1
  simp only [broughtOver, Sys.step, Level.addOrder, tot_insert_fresh hfresh]
  omega

/-- a match result built incrementally keeps remaining = initial − Σ transactions (truncated at 0,
    as the code saturates), and after at least one transaction reports completion exactly when
    nothing remains -/
theorem C02_add_transaction (taker : Id) (q : Nat) (txs : List Tx) :
    (txs.foldl MatchResult.addTx (MatchResult.new taker q)).remaining = q - sumQty txs ∧
      (txs ≠ [] → ((txs.foldl MatchResult.addTx (MatchResult.new taker q)).complete = true ↔
        (txs.foldl MatchResult.addTx (MatchResult.new taker q)).remaining = 0)) ∧
      (txs.foldl MatchResult.addTx (MatchResult.new taker q)).txs = txs := by
  -- from any result `r`; the flag is set by the last `add_transaction`, so it is right once there was one
  have gen : ∀ (txs : List Tx) (r : MatchResult),
      (txs.foldl MatchResult.addTx r).remaining = r.remaining - sumQty txs ∧
      (txs = [] ∨ (txs.foldl MatchResult.addTx r).complete = ((txs.foldl MatchResult.addTx r).remaining == 0)) ∧
      (txs.foldl MatchResult.addTx r).txs = r.txs ++ txs := by
    intro txs
    induction txs with
    | nil => intro r; simp [sumQty]
    | cons x rest ih =>
      intro r
      obtain ⟨h1, h2, h3⟩ := ih (r.addTx x)
      -- the flag: if `x` is the last one (`rest = []`), `addTx` has just set it; otherwise the hypothesis says it
      refine ⟨?_, .inr (h2.elim (fun e => e ▸ rfl) id), ?_⟩
      · rw [List.foldl_cons, h1]; simp only [MatchResult.addTx, sumQty]; omega
      · rw [List.foldl_cons, h3]; simp [MatchResult.addTx]
  obtain ⟨h1, h2, h3⟩ := gen txs (MatchResult.new taker q)
  exact ⟨h1, fun hne => by rw [h2.resolve_left hne]; simp, by simpa [MatchResult.new] using h3⟩

/-- C02 over histories: in every state reachable by an admissible history every match request is
    fully accounted for -/
theorem C02_history (p : Nat) (ops : List Op) (ha : AdmAll ⟨Level.new p, 0⟩ ops) (q : Nat) (t : Id) :
    let s := Sys.run ⟨Level.new p, 0⟩ ops
    MatchFacts s.lvl q t s.g (s.lvl.matchOrder q t s.g).1 (s.lvl.matchOrder q t s.g).2.1
      (s.lvl.matchOrder q t s.g).2.2 :=
  Level.matchOrder_facts (Sys.run_inv ops (Level.inv_new p) ha) q t _

/-! non-vacuity: `Level.Inv` holds of a level with an iceberg and a pegged order (see C01's example
    for an admissible history with matches) -/
example : (Level.addOrder (Level.addOrder (Level.new 100) ⟨⟨false, 1⟩, 100, 5, .sell, 1, .gtc, .iceberg 20⟩)
    ⟨⟨false, 2⟩, 100, 10, .sell, 2, .gtc, .pegged 3 .bestBid⟩).Inv :=
  ((Level.inv_new 100).addOrder_inv (by unfold Adm; decide)).addOrder_inv (by unfold Adm; decide)

end PLV.C02
