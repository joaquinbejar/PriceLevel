/-
  C14 — Transaction ids are unique across threads and reproducible.
  Every schedule, every number of threads and calls.

  The id a call returns is `Uuid::new_v5(namespace, counter.to_string())`. About the counter: every
  call (a thread's `next`, or the draw inside a match) is ONE atomic step that returns the counter
  and increments it, so along any interleaving the values handed out are g, g+1, g+2, … in the
  order of the draws — pairwise distinct as long as the 64-bit counter does not wrap, and the same
  sequence for any two generators started at the same value. About the ids: the decimal name is an
  injective function of the counter, so equal ids for different counters exhibit two different
  messages with the same stamped, truncated SHA-1 digest.
  Assumed, not proved: that SHA-1, truncated and stamped as version 5 prescribes, does not collide.
-/
import PLV.Lemmas.ConcShare
import PLV.Lemmas.Bytes
import PLV.Model.Sha1

namespace PLV.C14
open PLV PLV.Conc

/-- does this program counter draw an id? -/
def isDraw : Pc → Bool
  | .nx | .mUuid _ _ => true
  | _ => false

/-- `UuidGenerator::next` is a single atomic step: it returns the counter's value and increments it -/
theorem C14_next_is_one_step (s : Shared) :
    (tstep s .nx).1.g = wadd s.g 1 ∧ (tstep s .nx).2.1 = .done (toString s.g) := ⟨rfl, rfl⟩

/-- the counter moves only at a draw, and then by exactly one -/
theorem C14_counter_step (s : Shared) (pc : Pc) :
    (tstep s pc).1.g = if isDraw pc then wadd s.g 1 else s.g := by
  have row {s' a} (h : Step s pc s' a) : s'.g = if isDraw pc then wadd s.g 1 else s.g := by induction h <;> rfl
  exact row (tstep_step s pc)

/-- the value drawn by thread `i`'s next step, if that step is a draw -/
def drawOf (c : Cfg) (i : Nat) : Option Nat :=
  match c.ts[i]? with
  | none => none
  | some t =>
    match t.norm with
    | none => none
    | some tn => if isDraw tn.pc then some c.sh.g else none

/-- the values drawn along a schedule, in order -/
def draws (c : Cfg) : List Nat → List Nat
  | [] => []
  | i :: rest => (match drawOf c i with | some k => [k] | none => []) ++ draws (Conc.step c i).1 rest

theorem drawOf_eq (c : Cfg) (i : Nat) : drawOf c i = if isDraw (c.pcOf i) then some c.sh.g else none :=
  c.slot_pc i (fun pc => if isDraw pc then some c.sh.g else none)

theorem step_g (c : Cfg) (i : Nat) :
    (Conc.step c i).1.sh.g = if (drawOf c i).isSome then wadd c.sh.g 1 else c.sh.g := by
  rw [step_sh, C14_counter_step, drawOf_eq]; split <;> rfl

/-- **the values handed out along any schedule are the consecutive counter values from the
    generator's starting point (mod 2^64), whichever threads draw them** -/
theorem C14_draws_consecutive (sched : List Nat) :
    ∀ (c : Cfg), c.sh.g < W →
      draws c sched = (List.range (draws c sched).length).map (fun k => (c.sh.g + k) % W) := by
  induction sched with
  | nil => intro c _; rfl
  | cons i rest ih =>
    intro c hg
    have hstep := step_g c i
    simp only [draws]
    rw [drawOf_eq] at hstep ⊢
    by_cases hd : isDraw (c.pcOf i) = true <;>
      simp only [hd, if_true, Bool.false_eq_true, if_false, Option.isSome_some, Option.isSome_none] at hstep ⊢
    · have := ih (Conc.step c i).1 (hstep ▸ wadd_lt _ _)
      simp only [List.singleton_append, List.length_cons]
      rw [this, hstep, List.range_succ_eq_map]
      simp only [List.map_cons, List.map_map, Nat.add_zero, Nat.mod_eq_of_lt hg, List.length_map, List.length_range]
      congr 1
      apply List.map_congr_left
      intro a _
      simp only [Function.comp, wadd, W]
      omega
    · have := ih (Conc.step c i).1 (by rw [hstep]; exact hg)
      rw [hstep] at this; exact this

/-- hence pairwise distinct while fewer than 2^64 ids are drawn -/
theorem C14_draws_distinct (c : Cfg) (hg : c.sh.g < W) (sched : List Nat) (hn : (draws c sched).length ≤ W) :
    (draws c sched).Nodup := by
  rw [C14_draws_consecutive sched c hg, List.Nodup, List.pairwise_map]
  refine List.Pairwise.imp_of_mem ?_ List.pairwise_lt_range
  intro a b ha hb hab
  simp only [List.mem_range] at ha hb
  simp only [W] at *
  omega

/-- reproducibility: the values drawn depend only on the starting counter and on how many draws
    happen, not on the threads, the orders or the interleaving -/
theorem C14_reproducible (c c' : Cfg) (sched sched' : List Nat) (hg : c.sh.g < W) (hg' : c'.sh.g < W)
    (h0 : c.sh.g = c'.sh.g) (hn : (draws c sched).length = (draws c' sched').length) :
    draws c sched = draws c' sched' := by
  rw [C14_draws_consecutive sched c hg, C14_draws_consecutive sched' c' hg', h0, hn]

/-! ### from counters to the ids themselves

`UuidGenerator::next` returns `Uuid::new_v5(namespace, counter.to_string())`. `PLV.Sha1.txId ns c` is that id, computed
by an executable model of SHA-1 and of the version-5 construction that the correspondence run compares bit for bit with
the real generator (`v5` lines: namespaces nil / standard / all-ones / random, counters at 0 and at the boundaries).
What is proved: the name is an injective function of the counter, so two different counters can only give the same id
through a collision of the (truncated, stamped) SHA-1 — stated with the colliding messages exhibited. -/

open PLV.Sha1 in
theorem C14_name_injective (a b : Nat) (h : nameOfCounter a = nameOfCounter b) : a = b := by
  have e : Text.showNat a = Text.showNat b :=
    Text.bytes_injective _ _ (Text.showNat_ascii a) (Text.showNat_ascii b) h
  exact Option.some.inj ((Text.digitsVal_showNat a).symm.trans (e ▸ Text.digitsVal_showNat b))

open PLV.Sha1 in
/-- **distinct counters give distinct ids, or SHA-1 (truncated to 122 bits as version 5 prescribes) collides**: if
    two different counter values of one generator produced the same transaction id, the two *different* messages
    `namespace ++ decimal(a)` and `namespace ++ decimal(b)` would have the same stamped digest -/
theorem C14_distinct_or_collision (ns a b : Nat) (hab : a ≠ b) (h : txId ns a = txId ns b) :
    ∃ m1 m2 : List UInt8, m1 ≠ m2 ∧ ofBytes (stamp (digestBytes m1)) = ofBytes (stamp (digestBytes m2)) :=
  ⟨bytes16 ns ++ nameOfCounter a, bytes16 ns ++ nameOfCounter b,
   fun e => hab (C14_name_injective a b (List.append_cancel_left e)), h⟩

/-- reproducibility, at the level of ids: the ids handed out are `txId namespace` of the values drawn, and those
    depend only on the starting counter and the number of draws (`C14_reproducible`) -/
theorem C14_ids_reproducible (ns : Nat) (c c' : Cfg) (sched sched' : List Nat) (hg : c.sh.g < W) (hg' : c'.sh.g < W)
    (h0 : c.sh.g = c'.sh.g) (hn : (draws c sched).length = (draws c' sched').length) :
    (draws c sched).map (PLV.Sha1.txId ns) = (draws c' sched').map (PLV.Sha1.txId ns) := by
  rw [C14_reproducible c c' sched sched' hg hg' h0 hn]

/-! non-vacuity: names are the ASCII decimal digits (the id values themselves - e.g. `txId 0 0 =
    242943767789622401472770188650165148846` - are evaluated by the compiled driver and compared with the crate on every run;
    kernel evaluation of SHA-1 exceeds the recursion limit) -/
example : PLV.Sha1.nameOfCounter 42 = [52, 50] := by decide

/-! non-vacuity: two threads drawing concurrently -/
example : draws (Cfg.init (Level.new 100) 5 [[.next, .next], [.next]]) [0, 1, 0] = [5, 6, 7] := by decide

end PLV.C14
