/-
  C06 — Matching always terminates and exhausts the displayed liquidity.
-/
import PLV.Judge
import PLV.Lemmas.MatchInv

namespace PLV.C06
open PLV

/-! ### (1) every match request returns

`matchLoop` — the model of the loop of `match_order` — is a *total* Lean function: Lean accepted it
only together with a proof that the measure `(remaining + Σ hidden in the map, number of tickets)`
decreases lexicographically at each of its three recursive calls. That holds for **every** state:
orders with nothing displayed, replenish amount 0, stale tickets, states no history reaches.
The three facts that proof rests on are restated here as theorems. -/

/-- a visited order that stays in the queue (is not set aside) lowers `remaining + hidden` -/
theorem C06_requeue_progress (o u : Order) (q : Nat) (hq : q ≠ 0)
    (hu : (matchAgainst o q).updated = some u)
    (hp : ¬ ((matchAgainst o q).consumed = 0 ∧ (matchAgainst o q).hiddenRed = 0)) :
    (matchAgainst o q).remaining + u.hid < q + o.hid := visit_progress o q u hq hu hp

/-- every `pop` shortens the ticket queue and never raises the hidden total of the map -/
theorem C06_pop_progress {m : OMap} {ts : List Id} {o m' ts'} (h : popLive m ts = some (o, m', ts')) :
    ts'.length < ts.length ∧ sumHid m' + o.hid ≤ sumHid m := ⟨popLive_len h, popLive_sumHid h⟩

/-- a visit never increases the remaining quantity -/
theorem C06_remaining_le (o : Order) (q : Nat) : (matchAgainst o q).remaining ≤ q :=
  matchAgainst_remaining_le o q

/-- the call returns a result, for every level state whatsoever (no invariant assumed) -/
theorem C06_returns (l : Level) (q : Nat) (t : Id) (g : Nat) :
    ∃ l' r g', l.matchOrder q t g = (l', r, g') := ⟨_, _, _, rfl⟩

/-! ### (2), (3) exhaustion and the lower bound, from any well-formed state -/

theorem C06_exhausts_and_at_least {l : Level} (h : l.Inv) (q : Nat) (t : Id) (g : Nat) :
    ((l.matchOrder q t g).2.1.remaining > 0 → sumVis (l.matchOrder q t g).1.map = 0) ∧
      min q (sumVis l.map) ≤ sumQty (l.matchOrder q t g).2.1.txs ∧
      sumQty (l.matchOrder q t g).2.1.txs + (l.matchOrder q t g).2.1.remaining = q := by
  have hl := h.loop q t g
  have hstop := matchLoop_stop l.price t q l.map l.tickets
    { vis := l.vis, hid := l.hid, cnt := l.cnt, stats := l.stats, g := g }
  simp only [Level.matchOrder]
  generalize matchLoop l.price t q l.map l.tickets _ = res at hl hstop
  obtain ⟨rem, m, ts, a⟩ := res
  obtain ⟨ha, he, _⟩ := hl
  have hm := he.mono; have hacct := he.acct
  simp only [Level.finishMatch, requeueAside_eq _ _ _ ha.disj ha.nodupA, sumVis_append,
    sumVis_zero_of_all he.aside0, Nat.add_zero]
  -- if something remains the tickets ran out, and every order in the map has a ticket
  have hempty : rem > 0 → sumVis m = 0 := fun hpos => by
    rcases hstop with h0 | hts
    · exact absurd h0 (by simp only; omega)
    · simp only at hts ha; subst hts; rw [ids_eq_nil ha.covered]; rfl
  refine ⟨hempty, ?_, hacct⟩
  by_cases hpos : rem > 0
  · have := hempty hpos; simp only at hm hacct; omega
  · simp only at hm hacct; omega

/-- the same, as the observation predicate the driver evaluates on the real crate -/
theorem C06_ok {l : Level} (h : l.Inv) (q : Nat) (t : Id) (g : Nat) :
    C06.ok q (l.matchOrder q t g).2.1 l.listing (l.matchOrder q t g).1.listing = true := by
  obtain ⟨h1, h2, _⟩ := C06_exhausts_and_at_least h q t g
  simp only [C06.ok, l.listing_sums.1, (l.matchOrder q t g).1.listing_sums.1, Bool.and_eq_true, Bool.or_eq_true,
    beq_iff_eq, decide_eq_true_eq]
  exact ⟨(Nat.eq_zero_or_pos _).imp_right h1, h2⟩

/-- **C06 over histories**: in every state reachable by an admissible history (zero quantities
    allowed), every match request returns, exhausts and executes at least the minimum. -/
theorem C06_history (p : Nat) (ops : List Op) (ha : AdmAll ⟨Level.new p, 0⟩ ops) (q : Nat) (t : Id) :
    let s := Sys.run ⟨Level.new p, 0⟩ ops
    C06.ok q (s.lvl.matchOrder q t s.g).2.1 s.lvl.listing (s.lvl.matchOrder q t s.g).1.listing = true :=
  C06_ok (Sys.run_inv ops (Level.inv_new p) ha) q t _

/-! non-vacuity: the witness of defect C (DESIGN §7: `match_order` did not return on it) is a well-formed state -/
example : (Level.addOrder (Level.new 100) ⟨⟨false, 1⟩, 100, 0, .sell, 1, .gtc, .iceberg 5⟩).Inv :=
  (Level.inv_new 100).addOrder_inv (by unfold Adm; decide)

end PLV.C06
