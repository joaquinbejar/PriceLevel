/-
  C03 — Quantity is conserved when threads add, match, cancel and amend concurrently.
  Everything here holds for EVERY schedule (a `List Nat` of thread indices of any length), every
  number of threads and every number of operations per thread, at the granularity of individual
  atomic / map / queue operations.

  The credit invariant (`C03_credits`): each counter = sum over the map + what each thread has
  counted but not yet published / taken but not yet discounted. The ownership invariant
  (`C03_ownership`): every order id is in exactly one place, the map or the hands of one thread. At
  quiescence (`C03_quiescent`) the aggregates equal the sums over the resting orders, with no wrap.
  The per-order ledger (`C03_ledger`, `C03_ledger_prefix`): what rests + what threads hold + what
  was executed + what cancels handed back + discarded hidden quantity (+ amended down) = what was
  there + what adds supplied (+ amended up). Its events are counted where they happen in the model
  (a transaction is created, a cancel returns, the leftover hidden quantity is dropped); on real
  executions the same ledger is judged from the calls' return values by `C03.idOk`.
  Not exhibited by the model: weak-memory reorderings, DashMap / SegQueue internals.
-/
import PLV.Lemmas.ConcInit
import PLV.Lemmas.ConcLedger
import PLV.Lemmas.ConcSolo

namespace PLV.C03
open PLV PLV.Conc

/-- the invariant is inductive: it survives one shared-memory step of any thread -/
theorem C03_invariant_step (c : Cfg) (i : Nat) (h : CInv c) : CInv (Conc.step c i).1 := h.step i

/-- **at quiescence the aggregates equal the sums over the resting orders**: from any well-formed
    level, for any admissible program and any schedule that lets every thread return -/
theorem C03_quiescent {l : Level} (hl : l.Inv) (g : Nat) {progs : List (List COp)} (ha : ProgAdm l progs)
    (hQ : supplyQ l progs < W) (hN : supplyC l progs < W) (sched : List Nat)
    (hd : allDone (Conc.run (Cfg.init l g progs) sched) = true) :
    let c := Conc.run (Cfg.init l g progs) sched
    c.sh.vis = sumVis c.sh.map ∧ c.sh.hid = sumHid c.sh.map ∧ c.sh.cnt = c.sh.map.length ∧
      (ids c.sh.map).Nodup := by
  have h := quiescent_run hl g ha hQ hN sched hd
  exact ⟨h.vis, h.hid, h.cnt, h.nodup⟩

/-- **ownership**: at every point of every execution every order id is in at most one place — the
    map, or the hands of exactly one thread (as the order it removed / is about to insert, or in its
    set-aside list). Hence no order is handed to two matchers, to a matcher and a canceller, or to
    two cancellers. -/
theorem C03_ownership {l : Level} (hl : l.Inv) (g : Nat) {progs : List (List COp)} (ha : ProgAdm l progs)
    (sched : List Nat) (x : Id) :
    let c := Conc.run (Cfg.init l g progs) sched
    (ids c.sh.map).count x + sumT (fun t => (theld t).count x) c.ts ≤ 1 :=
  ((init_inv hl g ha).run sched).inv.own x

/-- the stored counters are, at every point, exactly the sum over the map plus every thread's credit -/
theorem C03_credits {l : Level} (hl : l.Inv) (g : Nat) {progs : List (List COp)} (ha : ProgAdm l progs)
    (hQ : supplyQ l progs < W) (hN : supplyC l progs < W) (sched : List Nat) :
    let c := Conc.run (Cfg.init l g progs) sched
    c.sh.vis = sumVis c.sh.map + sumT (fun t => cV t.pc) c.ts ∧
    c.sh.hid = sumHid c.sh.map + sumT (fun t => cH t.pc) c.ts ∧
    c.sh.cnt = c.sh.map.length + sumT (fun t => cC t.pc) c.ts := by
  obtain ⟨e1, e2, e3, _⟩ := ((init_inv hl g ha).run sched).exact hQ hN
  exact ⟨e1, e2, e3⟩

/-- quantity the programs' adds will supply under id `x` -/
def suppliedBy (x : Id) (progs : List (List COp)) : Nat :=
  sumT (thand x) (progs.map (fun ops => ({ todo := ops } : Thread)))

/-- **the per-order ledger, for every schedule**: once all threads have returned, for every order id
    `x`: what rests under `x` + what was executed against `x` + what cancels handed back + the hidden
    quantity discarded when a non-replenishing reserve order was exhausted (+ what amends took away)
    = what the level held under `x` at the start + what the adds supplied (+ what amends added).
    Nothing is executed twice, handed to two cancellers, or lost. -/
theorem C03_ledger {l : Level} (hl : l.Inv) (g : Nat) {progs : List (List COp)} (ha : ProgAdm l progs)
    (sched : List Nat) (x : Id) (hd : allDone (Conc.run (Cfg.init l g progs) sched) = true) :
    let c := Conc.run (Cfg.init l g progs) sched
    let E := runLev x (Cfg.init l g progs) sched
    tot x c.sh.map + E.exec + E.ret + E.disc + E.down = tot x l.map + suppliedBy x progs + E.up := by
  have h := ledger_run x sched (init_inv hl g ha).inv
  have hz : sumT (thand x) (Conc.run (Cfg.init l g progs) sched).ts = 0 := sumT_done (opTot x) rfl hd
  rw [hz] at h
  exact h

/-- at every point of every schedule (not only at quiescence): the same ledger with what the threads
    currently hold of `x` outside the map, or have yet to bring -/
theorem C03_ledger_prefix {l : Level} (hl : l.Inv) (g : Nat) {progs : List (List COp)} (ha : ProgAdm l progs)
    (sched : List Nat) (x : Id) :
    let c := Conc.run (Cfg.init l g progs) sched
    let E := runLev x (Cfg.init l g progs) sched
    tot x c.sh.map + sumT (thand x) c.ts + E.exec + E.ret + E.disc + E.down = tot x l.map + suppliedBy x progs + E.up :=
  ledger_run x sched (init_inv hl g ha).inv

/-! ### the interleaved model extends the sequential one

The theorems above are about the small-step machine; C01 / C02 / C07 / C15 are about the big-step
functions. These two statements say the machines agree wherever both apply, for every level, every
operation and every program — so a serial schedule of the interleaved machine *is* a sequential
history, and everything proved about histories holds of it. -/

/-- **one call, alone, is the big-step function** (`Conc.solo_eq_seq`): in any configuration, if
    thread `i` is between calls and runs its next call while nobody else moves, the shared state goes
    from level `l` to exactly `seqOp l g op` — `Level.addOrder`, `Level.matchOrder`,
    `Level.removeOrder`, `Level.amend`, a read, or a draw from the id generator — and the thread
    records exactly that call's result. -/
theorem C03_solo_eq_seq (l : Level) (g : Nat) (ts : List Thread) (i : Nat) (op : COp) (rest : List COp)
    (rets : List String) (hi : ts[i]? = some { pc := .idle, todo := op :: rest, rets := rets }) (hok : OpOk op) :
    ∃ n, Conc.run ⟨Shared.ofLevel l g, ts⟩ (List.replicate n i) =
      ⟨Shared.ofLevel (seqOp l g op).1 (seqOp l g op).2.1,
       ts.set i { pc := .idle, todo := rest, rets := rets ++ [(seqOp l g op).2.2] }⟩ :=
  solo_eq_seq l g ts i op rest rets hi hok

/-- **a serial schedule is a sequential history**: for any programs there is a schedule (thread 0 to
    completion, then thread 1, …) after which every thread has returned, the shared state is the
    level the sequential model computes for the concatenated history, and each thread has recorded
    the sequential results of its own calls. -/
theorem C03_serial (l : Level) (g : Nat) (progs : List (List COp)) (hok : ∀ ops ∈ progs, ∀ op ∈ ops, OpOk op) :
    ∃ sched, Conc.run (Cfg.init l g progs) sched =
        ⟨Shared.ofLevel (serial l g progs).1 (serial l g progs).2.1, (serial l g progs).2.2.map doneThread⟩ ∧
      allDone (Conc.run (Cfg.init l g progs) sched) = true := by
  obtain ⟨sched, e⟩ := serial_run progs l g [] hok
  have e' : Conc.run (Cfg.init l g progs) sched =
      ⟨Shared.ofLevel (serial l g progs).1 (serial l g progs).2.1, (serial l g progs).2.2.map doneThread⟩ := by
    simpa [Cfg.init] using e
  exact ⟨sched, e', e' ▸ serial_allDone _ _⟩

/-- **a quantity amendment never touches the hidden-quantity counter**: in the model the amend goes from its
    removal straight to the visible adjustment or to the re-insert — never to the hidden adjustment — because
    `withReduced` leaves the hidden quantity alone. (The judge `C03.amendScan` checks exactly this on the real
    trace: an amend that moved the hidden aggregate has created or destroyed quantity of that order.) -/
theorem C03_amend_leaves_hidden (s : Shared) (id : Id) (n : Nat) (o1 new : Order) :
    (tstep s (.am1 id n)).2.1 ≠ .cont (.amH o1 new) ∧
      (tstep s (.amV o1 (o1.withReduced n))).2.1 ≠ .cont (.amH o1 (o1.withReduced n)) := by
  constructor
  · simp only [tstep]
    cases hf : s.map.find id with
    | none => simp
    | some o =>
      have hh : o.hid = (o.withReduced n).hid := (withReduced_hid o n).symm
      simp only [hh, ne_eq, not_true_eq_false, if_false]
      split <;> simp
  · have hh : o1.hid = (o1.withReduced n).hid := (withReduced_hid o1 n).symm
    simp only [tstep, hh, ne_eq, not_true_eq_false, if_false]
    split <;> simp

/-! non-vacuity: the serial execution of the program below is computed by the sequential model -/
example : (serial ((Level.new 100).addOrder ⟨⟨false, 1⟩, 100, 10, .sell, 1, .gtc, .iceberg 5⟩) 0
    [[.amend ⟨false, 1⟩ 7], [.add ⟨⟨false, 2⟩, 100, 3, .sell, 2, .gtc, .standard⟩, .readVis]]).1.vis = 10 := by decide

/-! non-vacuity: an admissible two-thread program on a one-order level -/
example : ProgAdm ((Level.new 100).addOrder ⟨⟨false, 1⟩, 100, 10, .sell, 1, .gtc, .iceberg 5⟩)
    [[.amend ⟨false, 1⟩ 5, .add ⟨⟨false, 2⟩, 100, 3, .sell, 2, .gtc, .standard⟩], [.matchQ 4 ⟨false, 9⟩, .cancel ⟨false, 1⟩]] :=
  ⟨by decide, by intro ops hops op hop; simp at hops; rcases hops with rfl | rfl <;> simp at hop <;> rcases hop with rfl | rfl <;> simp [OpOk]⟩

end PLV.C03
