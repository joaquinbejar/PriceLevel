/-
  C07 — Cancel, move and amend do exactly what they report; read-only calls are pure.
-/
import PLV.Judge
import PLV.Lemmas.Lifetime

namespace PLV.C07
open PLV

/-- cancelling (or moving away) a resting order returns that order with its current quantities,
    removes it and only it (no other entry and no ticket changes) -/
theorem C07_remove_present {l : Level} {id : Id} {o : Order} (hf : l.map.find id = some o) :
    (l.removeOrder id).2 = .ok (some o) ∧
      (∀ x, x ∈ (l.removeOrder id).1.map ↔ (x ∈ l.map ∧ x.id ≠ id)) ∧
      (l.removeOrder id).1.tickets = l.tickets ∧ (l.removeOrder id).1.price = l.price := by
  rw [Level.removeOrder_eq hf]
  exact ⟨rfl, fun x => mem_erase, rfl, rfl⟩

/-- an unknown id reports not-found and changes nothing -/
theorem C07_remove_absent {l : Level} {id : Id} (hf : l.map.find id = none) :
    l.removeOrder id = (l, .ok none) := Level.removeOrder_none hf

/-- the five update kinds dispatch on the price: different price ⇒ remove; same price ⇒ amend, or
    an error for a pure price update -/
theorem C07_dispatch (l : Level) (id : Id) (p n : Nat) (sd : Side) :
    l.update (.cancel id) = l.removeOrder id ∧
    l.update (.quantity id n) = l.amend id n ∧
    (p ≠ l.price → l.update (.price id p) = l.removeOrder id ∧ l.update (.priceQty id p n) = l.removeOrder id ∧
      l.update (.replace id p n sd) = l.removeOrder id) ∧
    (p = l.price → l.update (.price id p) = (l, .errSamePrice) ∧ l.update (.priceQty id p n) = l.amend id n ∧
      l.update (.replace id p n sd) = l.amend id n) := by
  refine ⟨rfl, rfl, ?_, ?_⟩
  · intro hp; simp [Level.update, hp]
  · intro hp; simp [Level.update, hp]

/-- a price update to the level's own price is rejected without effect -/
theorem C07_same_price_rejected (l : Level) (id : Id) : l.update (.price id l.price) = (l, .errSamePrice) := by
  simp [Level.update]

/-- `amended` (the judge's reading of the property) is what `with_reduced_quantity` computes -/
theorem C07_amended_eq (old : Order) (n : Nat) : old.withReduced n = amended old n := rfl

/-- a same-price amendment returns the order that now rests: new displayed quantity for Standard,
    PostOnly and Iceberg, unchanged for the other four kinds; every other order and all identity
    fields untouched -/
theorem C07_amend_present {l : Level} (h : l.Inv) {id : Id} {old : Order} (n : Nat) (hf : l.map.find id = some old) :
    (l.amend id n).2 = .ok (some (amended old n)) ∧
      (l.amend id n).1.map.find id = some (amended old n) ∧
      (∀ x, x.id ≠ id → (x ∈ (l.amend id n).1.map ↔ x ∈ l.map)) ∧
      (amended old n).id = old.id ∧ (amended old n).price = old.price ∧ (amended old n).side = old.side ∧
      (amended old n).ts = old.ts ∧ (amended old n).tif = old.tif ∧ (amended old n).hid = old.hid ∧
      Kind.sameParams old.kind (amended old n).kind = true := by
  have hid : old.id = id := (find_some hf).2
  have hida : (amended old n).id = id := by rw [← C07_amended_eq, withReduced_id, hid]
  rw [Level.amend_eq hf, C07_amended_eq]
  refine ⟨rfl, ?_, ?_, ?_⟩
  · rw [← hida]; exact find_insert_same _ _
  · intro x hx
    show x ∈ (l.map.erase id).insert (amended old n) ↔ x ∈ l.map
    rw [mem_insert, mem_erase, hida]
    constructor
    · rintro (⟨⟨h1, _⟩, _⟩ | rfl)
      · exact h1
      · exact absurd hida hx
    · intro hm; exact Or.inl ⟨⟨hm, hx⟩, hx⟩
  · obtain ⟨i, p, v, s, t, tf, k⟩ := old
    cases k <;> simp [amended, Order.hid, Kind.hidden, Kind.sameParams]

theorem C07_amend_absent {l : Level} {id : Id} (n : Nat) (hf : l.map.find id = none) :
    l.amend id n = (l, .ok none) := Level.amend_none hf

/-- an order that is not in the book never trades: every maker of a match was resting when the
    call started -/
theorem C07_absent_never_trades {l : Level} (h : l.Inv) (id : Id) (hid : id ∉ ids l.map) (q : Nat) (t : Id) (g : Nat) :
    ∀ tx ∈ (l.matchOrder q t g).2.1.txs, tx.maker ≠ id :=
  fun tx htx e => hid (e ▸ (Level.matchOrder_facts h q t g).maker_rested htx)

/-- does the operation add an order with this id? -/
def addsId (id : Id) : Op → Bool
  | .add o => o.id == id
  | _ => false

/-- **a removed order never trades afterwards** (until it is added again): along any admissible
    history that does not add `id`, starting from a state where `id` does not rest (e.g. right
    after its successful cancel), no transaction names it -/
theorem C07_never_trades (id : Id) (ops : List Op) :
    ∀ (s : Sys), s.lvl.Inv → AdmAll s ops → id ∉ ids s.lvl.map → (∀ op ∈ ops, addsId id op = false) →
      ∀ out ∈ s.outs ops, ∀ r, out = .matched r → ∀ tx ∈ r.txs, tx.maker ≠ id := by
  induction ops with
  | nil => intro s _ _ _ _ out hout; cases hout
  | cons op rest ih =>
    intro s h ha hid hno out hout r hr tx htx
    rcases List.mem_cons.1 hout with rfl | hout
    · obtain ⟨q, t, hf⟩ := Sys.step_matched h hr
      exact fun e => hid (e ▸ hf.maker_rested htx)
    · refine ih _ (Sys.step_inv h op ha.1) ha.2 (fun hm => ?_) (fun op' hop => hno op' (.tail _ hop)) out hout r hr tx htx
      obtain hm | ⟨o, rfl, rfl⟩ := Sys.step_ids hm
      · exact hid hm
      · simpa [addsId] using hno _ (.head _)

/-- listing, snapshotting, displaying, serializing and reading statistics never change any later
    result: in the model a read is the identity on the state (the force of this statement comes from
    the correspondence check, which runs the real crate with reads inserted at arbitrary points) -/
theorem C07_reads_pure (s : Sys) (ops : List Op) :
    (s.step .read).1 = s ∧ Sys.outs (s.step .read).1 ops = Sys.outs s ops := ⟨rfl, rfl⟩

example : (Level.addOrder (Level.new 100) ⟨⟨false, 1⟩, 100, 5, .sell, 1, .gtc, .iceberg 20⟩).map.find ⟨false, 1⟩ =
    some ⟨⟨false, 1⟩, 100, 5, .sell, 1, .gtc, .iceberg 20⟩ := by decide

end PLV.C07
