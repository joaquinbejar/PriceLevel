/-
  C13 — Cancel / amend acknowledgements stay truthful under concurrency. Every schedule.

  The first half of the property is FALSE of the crate (and of the model): `C13_counterexample` — a
  cancel that runs while a matcher holds the order between its pop and its re-push reports
  not-found although the order is back in the book afterwards (known finding C13/in-flight).
  What holds of it (`C13_partial`, `C13_not_found_iff`): a lookup made while the order is in the map
  finds it, so not-found can only be untruthful while another thread holds the order in flight. The
  second half holds in full (`C13_success_is_final`).
-/
import PLV.Lemmas.ConcInit

namespace PLV.C13
open PLV PLV.Conc

/-- how many places hold id `x`: the map plus every thread's hands (and pending adds) -/
def places (x : Id) (c : Cfg) : Nat := (ids c.sh.map).count x + sumT (fun t => (theld t).count x) c.ts

/-- no step of any thread ever creates a new holder of an id. `Conc.own_step` is this statement
    without `CInv`. -/
theorem places_mono (x : Id) {c : Cfg} (hinv : CInv c) (i : Nat) : places x (Conc.step c i).1 ≤ places x c :=
  own_step x c i

/-- **a cancel that reports success has really taken the order out**: right after the step in
    which a cancel finds and removes `x`, nobody holds `x` — and along every continuation, under
    every schedule, `x` is never in the map again and never in any thread's hands: it cannot trade,
    cannot be returned by another cancel, cannot be re-queued. (No operation of the program re-adds
    the id: program ids are distinct, `ProgAdm`.) -/
theorem C13_success_is_final {c : Cfg} (hinv : CInv c) (i : Nat) {t tn : Thread} {x : Id} {o : Order}
    (hti : c.ts[i]? = some t) (hn : t.norm = some tn) (hpc : tn.pc = .can0 x) (hf : c.sh.map.find x = some o)
    (sched : List Nat) :
    places x (Conc.run (Conc.step c i).1 sched) = 0 := by
  have hp : c.pcOf i = .can0 x := (Cfg.pcOf_of hti hn).trans hpc
  have hin : 0 < (ids c.sh.map).count x := List.count_pos_iff.2 (mem_ids_of_find hf)
  have hout : (ids (c.sh.map.erase x)).count x = 0 := List.count_eq_zero.2 (not_mem_ids_erase _ _)
  -- Before the step `x` is in the map, so by ownership no thread holds it. The step erases it, and the
  -- canceller, now at `.can1 o`, holds nothing: `held` (ConcDefs) lists what a thread will or may put
  -- back into the map, and a cancel puts nothing back. So right after the step nobody has `x` …
  have h0 : places x (Conc.step c i).1 = 0 := by
    have hown := hinv.own x
    have hs := (share_held x).step c i
    simp only [places, step_sh, hp, tstep, hf, After.pc, held, List.count_nil] at *
    omega
  -- … and no later step gives it a holder (`own_run`)
  exact Nat.le_zero.1 (h0 ▸ own_run x _ sched)

/-- **C13_partial**: a cancel (resp. the lookup of an amend) that runs while the order is in the
    map finds it -/
theorem C13_partial (s : Shared) (x : Id) (n : Nat) (o : Order) (hf : s.map.find x = some o) :
    (tstep s (.can0 x)).2.1 = .cont (.can1 o) ∧ (tstep s (.am0 x n)).2.1 = .cont (.am1 x n) := by
  simp [tstep, hf]

/-- … and not-found is answered exactly when the order is not in the map at that instant -/
theorem C13_not_found_iff (s : Shared) (x : Id) :
    (tstep s (.can0 x)).2.1 = .done "ok=-" ↔ x ∉ ids s.map := by
  cases hf : s.map.find x with
  | none => simp [tstep, hf, find_none.1 hf]
  | some o =>
    have : x ∈ ids s.map := mem_ids_of_find hf
    simp [tstep, hf, this]

def X : Order := ⟨⟨false, 1⟩, 100, 10, .sell, 1, .gtc, .standard⟩

/-- **the first half fails**: X(10) rests; thread 0 matches 4, thread 1 cancels X. Schedule: the
    matcher pops X and takes it out of the map, the cancel looks X up (not found, returns), the
    matcher finishes and pushes the remaining 6 back. The cancel said not-found; X rests. -/
theorem C13_counterexample :
    let c := Conc.run (Cfg.init ((Level.new 100).addOrder X) 0 [[.matchQ 4 ⟨false, 9⟩], [.cancel X.id]])
      [0, 0, 1, 0, 0, 0, 0, 0, 0, 0, 0, 0]
    allDone c = true ∧ (c.ts[1]?.map (·.rets)) = some ["ok=-"] ∧ (c.sh.map.map (·.id)) = [X.id] := by
  decide

end PLV.C13
